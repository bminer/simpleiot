import Siot.Lemmas.StoreOps
import Siot.Lemmas.LWW
/-
What every stored row looks like, as an invariant of the store's two write requests: the key is never empty, the value
is neither -0 nor NaN, and the node type is never an edge row. C02 and C15 state it for every store reached from the empty
one (`c02_stored_rows_on_every_store`, `c15_exported_records_meet_the_premises`) and take it as a premise elsewhere.
-/
namespace Siot.Store
open Siot

def RowGood (p : Point) : Prop := normPoint p = p ∧ isNaN p.value = false

def RowInv (st : St) : Prop :=
  (∀ r ∈ st.nodePts, RowGood r.2) ∧ (∀ r ∈ st.edgePts, RowGood r.2 ∧ r.2.type ≠ nodeTypeT)

theorem normKey_idem (k : Bytes) : normKey (normKey k) = normKey k := by
  cases k <;> rfl

theorem normPoint_idem (p : Point) : normPoint (normPoint p) = normPoint p := by
  unfold normPoint
  simp only [normKey_idem]
  by_cases h : p.value = negZero
  · simp only [h, if_true]; rfl
  · simp only [if_neg h]

theorem normPoint_nan (p : Point) : isNaN (normPoint p).value = isNaN p.value := by
  unfold normPoint
  dsimp only
  by_cases h : p.value = negZero
  · rw [if_pos h, h]; decide
  · rw [if_neg h]

theorem rowGood_norm (p : Point) (h : isNaN p.value = false) : RowGood (normPoint p) :=
  ⟨normPoint_idem p, by rw [normPoint_nan]; exact h⟩

theorem batch_good (pts : List Point) (hn : pts.any (fun p => isNaN p.value) = false) :
    ∀ p ∈ collapse (pts.map normPoint), RowGood p := by
  intro p hp
  have hm := (collapse_spec (pts.map normPoint)).2.1 p hp
  rw [List.mem_map] at hm
  obtain ⟨q, hq, rfl⟩ := hm
  rw [List.any_eq_false] at hn
  exact rowGood_norm q (by simpa using hn q hq)

theorem rowInv_nodeWrite {st : St} (hi : RowInv st) (id : Bytes) {batch : List Point} (hb : ∀ p ∈ batch, RowGood p) :
    RowInv (nodeWrite st id batch) := by
  refine ⟨List.forall_mem_append.mpr ⟨fun r hr => hi.1 r (List.mem_filter.mp hr).1, List.forall_mem_map.mpr ?_⟩, hi.2⟩
  exact forall_mem_mergeBatch (fun p hp => hi.1 _ (mem_ptsOf.mp hp)) hb

theorem rowInv_edgeWrite {st : St} (hi : RowInv st) (u d : Bytes) {batch : List Point}
    (hb : ∀ p ∈ batch, RowGood p ∧ p.type ≠ nodeTypeT) : RowInv (edgeWrite st u d batch) := by
  refine ⟨hi.1, List.forall_mem_append.mpr ⟨fun r hr => hi.2 r (List.mem_filter.mp hr).1, List.forall_mem_map.mpr ?_⟩⟩
  exact forall_mem_mergeBatch (fun p hp => hi.2 _ (mem_eptsOf.mp hp)) hb

theorem rowInv_edgeInsert {st : St} (hi : RowInv st) (u d typ : Bytes) {batch : List Point}
    (hb : ∀ p ∈ batch, RowGood p ∧ p.type ≠ nodeTypeT) : RowInv (edgeInsert st u d typ batch) := by
  refine ⟨hi.1, List.forall_mem_append.mpr ⟨hi.2, List.forall_mem_map.mpr ?_⟩⟩
  exact forall_mem_mergeBatch (fun _ h => nomatch h) hb

/-- the edge points an accepted request writes: normalised, not NaN, never the node type -/
theorem edgeBatch_good {pts : List Point} (hnan : pts.any (fun p => isNaN p.value) = false) :
    ∀ p ∈ edgeBatch pts, RowGood p ∧ p.type ≠ nodeTypeT :=
  fun p hp => ⟨batch_good _ hnan p (List.mem_filter.mp hp).1, by simpa using (List.mem_filter.mp hp).2⟩

theorem rowInv_step {st : St} (hi : RowInv st) (op : WOp) : RowInv (step st op).1 := by
  obtain h | ⟨st', h, hw⟩ := step_cases st op <;> rw [h]
  · exact hi
  · cases hw with
    | np id pts hnan => exact rowInv_nodeWrite hi id (batch_good pts hnan)
    | write node parent pts _ _ hnan => exact rowInv_edgeWrite hi _ node (edgeBatch_good hnan)
    | insert node parent pts _ _ hnan => exact rowInv_edgeInsert hi _ node _ (edgeBatch_good hnan)

theorem rowInv_run {st : St} (h : RowInv st) (ops : List WOp) : RowInv (run st ops) :=
  run_induct (P := RowInv) (fun _ op hi => rowInv_step hi op) ops h

theorem rowInv_empty : RowInv {} := ⟨(fun _ h => nomatch h), (fun _ h => nomatch h)⟩

end Siot.Store

namespace Siot.Sync
open Siot Siot.Store

/-- stored points are normalised (key never empty, no -0.0) and never NaN -/
def StoredRows (rows : List Point) : Prop := ∀ p ∈ rows, normPoint p = p ∧ isNaN p.value = false

theorem storedRows_map_norm {l : List Point} (h : StoredRows l) : l.map normPoint = l :=
  (List.map_congr_left fun p hp => (h p hp).1).trans (List.map_id' l)

theorem storedRows_no_nan {l : List Point} (h : StoredRows l) : l.any (fun p => isNaN p.value) = false :=
  List.any_eq_false.mpr fun p hp => by rw [(h p hp).2]; exact Bool.false_ne_true

theorem storedRows_pts {st : St} (hi : RowInv st) (id : Bytes) : StoredRows (ptsOf st id) :=
  fun _ hp => hi.1 _ (mem_ptsOf.mp hp)

theorem storedRows_epts {st : St} (hi : RowInv st) (u d : Bytes) : StoredRows (eptsOf st u d) :=
  fun _ hp => (hi.2 _ (mem_eptsOf.mp hp)).1

theorem epts_no_nodeType {st : St} (hi : RowInv st) (u d : Bytes) : ∀ p ∈ eptsOf st u d, p.type ≠ nodeTypeT :=
  fun _ hp => (hi.2 _ (mem_eptsOf.mp hp)).2

end Siot.Sync
