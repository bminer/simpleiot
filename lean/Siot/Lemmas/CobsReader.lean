import Siot.Lemmas.Cobs
/-
One call of `CobsWrapper.Read`. The unread stream is the leftover buffer followed by the future device reads;
`read_chunked`: how it is cut into reads does not matter.
-/
namespace Siot.Cobs
open Siot

theorem dropZeros_length_le (a : Bytes) : (dropZeros a).length ≤ a.length := by
  induction a with
  | nil => exact Nat.le_refl _
  | cons x a ih =>
    rw [dropZeros]
    split
    · exact Nat.le_succ_of_le ih
    · exact Nat.le_refl _

theorem dropZeros_append (a b : Bytes) :
    dropZeros (a ++ b) = if dropZeros a = [] then dropZeros b else dropZeros a ++ b := by
  induction a with
  | nil => rfl
  | cons x a ih =>
    rw [List.cons_append, dropZeros, dropZeros]
    split
    · exact ih
    · exact (if_neg (List.cons_ne_nil _ _)).symm

theorem dropZeros_prefix_append (a b : Bytes) : dropZeros a <+: dropZeros (a ++ b) := by
  rw [dropZeros_append]
  split
  · next h => exact h ▸ List.nil_prefix
  · exact List.prefix_append _ _

theorem dropZeros_zf {l : Bytes} (hne : l ≠ []) (hz : ZF l) (rest : Bytes) : dropZeros (l ++ rest) = l ++ rest := by
  cases l with
  | nil => exact absurd rfl hne
  | cons c t => rw [List.cons_append, dropZeros, if_neg (zf_cons.1 hz).1]

theorem dropZeros_idem_append (a b : Bytes) : dropZeros (dropZeros a ++ b) = dropZeros (a ++ b) := by
  induction a with
  | nil => rfl
  | cons x a ih =>
    simp only [List.cons_append, dropZeros]
    split
    · exact ih
    · next h => rw [List.cons_append, dropZeros, if_neg h]

theorem cutAtZero_append (a b : Bytes) :
    cutAtZero (a ++ b) = match cutAtZero a with
      | some (f, r) => some (f, r ++ b)
      | none => (cutAtZero b).map (fun fr => (a ++ fr.1, fr.2)) := by
  induction a with
  | nil => simp [cutAtZero]
  | cons x a ih =>
    simp only [List.cons_append, cutAtZero, ih]
    split
    · rfl
    · cases cutAtZero a <;> cases cutAtZero b <;> rfl

theorem cutAtZero_length (a f r : Bytes) (h : cutAtZero a = some (f, r)) : a = f ++ 0 :: r := by
  induction a generalizing f with
  | nil => cases h
  | cons x a ih =>
    rw [cutAtZero] at h
    split at h
    · next hx => cases h; rw [hx]; rfl
    · split at h
      · next f' r' h2 => cases h; rw [ih f' h2]; rfl
      · cases h

theorem cutAtZero_none_zf {a : Bytes} (h : cutAtZero a = none) : ZF a := by
  induction a with
  | nil => exact zf_nil
  | cons x a ih =>
    rw [cutAtZero] at h
    split at h
    · cases h
    · next hx =>
      split at h
      · cases h
      · next h2 => exact zf_cons.2 ⟨hx, ih h2⟩

theorem cutAtZero_zf (a rest : Bytes) (h : ZF a) : cutAtZero (a ++ 0 :: rest) = some (a, rest) := by
  induction a with
  | nil => rfl
  | cons x a ih => rw [List.cons_append, cutAtZero, if_neg (zf_cons.1 h).1, ih (zf_cons.1 h).2]

theorem cutAtZero_dropZeros_zf (l : Bytes) (hne : l ≠ []) (hz : ZF l) (rest : Bytes) :
    cutAtZero (dropZeros (l ++ 0 :: rest)) = some (l, rest) := by
  rw [dropZeros_zf hne hz, cutAtZero_zf l rest hz]

theorem cutAtZero_dropZeros_append {a f r : Bytes} (h : cutAtZero (dropZeros a) = some (f, r)) (b : Bytes) :
    cutAtZero (dropZeros (a ++ b)) = some (f, r ++ b) := by
  have hne : dropZeros a ≠ [] := fun e => by
    rw [e] at h
    cases h
  rw [dropZeros_append, if_neg hne, cutAtZero_append, h]

theorem cutAtZero_prefix_length_le {p a f r : Bytes} (hp : p <+: a) (hn : cutAtZero p = none)
    (h : cutAtZero a = some (f, r)) : p.length ≤ f.length := by
  obtain ⟨t, rfl⟩ := hp
  rw [cutAtZero_append, hn] at h
  obtain ⟨fr, _, hfr⟩ := Option.map_eq_some_iff.1 h
  rw [← (Prod.mk.inj hfr).1, List.length_append]
  exact Nat.le_add_right _ _

/-- what a `Read` returns for the frame body `f` (bytes between delimiters) -/
def outFor (cfg : Cfg) (f : Bytes) : ReadOut :=
  if (0 :: (f ++ [0])).length > cfg.bufLen then .tooMuch else .frame (decodeInplace (0 :: (f ++ [0])))

/-- a body of `n` bytes passes the length guard of `tryFrame` -/
def Within (cfg : Cfg) (n : Nat) : Prop := n < cfg.bufLen ∧ n ≤ cfg.maxLen

variable {cfg : Cfg}

theorem Within.mono {n m : Nat} (h : Within cfg n) (hm : m ≤ n) : Within cfg m :=
  ⟨Nat.lt_of_le_of_lt hm h.1, Nat.le_trans hm h.2⟩

theorem tryFrame_some {lo f rest : Bytes} (h : cutAtZero (dropZeros lo) = some (f, rest)) :
    tryFrame cfg lo = some (outFor cfg f, rest) := by
  simp only [tryFrame, h, outFor]
  split <;> rfl

theorem tryFrame_none {lo : Bytes} (h : cutAtZero (dropZeros lo) = none) (hl : Within cfg (dropZeros lo).length) :
    tryFrame cfg lo = none := by
  simp only [tryFrame, h]
  exact if_neg fun hg => hg.elim (Nat.not_le.2 hl.1) (Nat.not_lt.2 hl.2)

theorem read_nil_congr {a b : Bytes} (h : dropZeros a = dropZeros b) : read cfg [] a = read cfg [] b := by
  simp only [read, tryFrame, h]

/-- `hlim`: the length guard looks at a partial body, a prefix of the stream without delimiter -/
theorem read_chunked (cfg : Cfg) (cs : List Bytes) (lo : Bytes)
    (hlim : ∀ p, p <+: dropZeros (lo ++ cs.flatten) → cutAtZero p = none → Within cfg p.length)
    (o : ReadOut) (rest : Bytes) (h : read cfg [] (lo ++ cs.flatten) = (o, rest, [])) :
    ∃ lo' cs', read cfg cs lo = (o, lo', cs') ∧ lo' ++ cs'.flatten = rest := by
  induction cs generalizing lo with
  | nil =>
    rw [List.flatten_nil, List.append_nil] at h
    exact ⟨rest, [], h, List.append_nil _⟩
  | cons c cs ih =>
    cases hl : cutAtZero (dropZeros lo) with
    | some fr =>
      rw [read, tryFrame_some (cutAtZero_dropZeros_append hl _)] at h
      cases h
      exact ⟨fr.2, c :: cs, by rw [read, tryFrame_some hl], rfl⟩
    | none =>
      have hS : dropZeros (dropZeros lo ++ c ++ cs.flatten) = dropZeros (lo ++ (c :: cs).flatten) := by
        rw [List.append_assoc, dropZeros_idem_append]; rfl
      rw [read, tryFrame_none hl (hlim _ (dropZeros_prefix_append _ _) hl)]
      exact ih _ (by rwa [hS]) (by rwa [read_nil_congr hS])

theorem outFor_ne_devErr (cfg : Cfg) (f : Bytes) : outFor cfg f ≠ .devErr := by
  unfold outFor
  split <;> nofun

theorem readAll_step {lo lo' : Bytes} {cs cs' : List Bytes} {o : ReadOut} (h : read cfg cs lo = (o, lo', cs'))
    (ho : o ≠ .devErr) (fuel : Nat) : readAll cfg (fuel + 1) lo cs = o :: readAll cfg fuel lo' cs' := by
  cases o with
  | devErr => exact absurd rfl ho
  | frame r => rw [readAll, h]
  | tooMuch => rw [readAll, h]

theorem readAll_end {lo lo' : Bytes} {cs cs' : List Bytes} (h : read cfg cs lo = (.devErr, lo', cs')) (fuel : Nat) :
    readAll cfg (fuel + 1) lo cs = [.devErr] := by
  rw [readAll, h]

theorem readAll_frame {f rest : Bytes} (hf : Within cfg f.length) (cs : List Bytes) (lo : Bytes)
    (h : cutAtZero (dropZeros (lo ++ cs.flatten)) = some (f, rest)) :
    ∃ lo' cs', lo' ++ cs'.flatten = rest ∧
      ∀ fuel, readAll cfg (fuel + 1) lo cs = outFor cfg f :: readAll cfg fuel lo' cs' := by
  obtain ⟨lo', cs', hr, hrest⟩ := read_chunked cfg cs lo
    (fun p hp hn => hf.mono (cutAtZero_prefix_length_le hp hn h)) _ _ (by rw [read, tryFrame_some h])
  exact ⟨lo', cs', hrest, readAll_step hr (outFor_ne_devErr cfg f)⟩

theorem readAll_no_frame (cs : List Bytes) (lo : Bytes) (h : cutAtZero (dropZeros (lo ++ cs.flatten)) = none)
    (hl : Within cfg (dropZeros (lo ++ cs.flatten)).length) (fuel : Nat) : readAll cfg (fuel + 1) lo cs = [.devErr] := by
  obtain ⟨lo', cs', hr, _⟩ := read_chunked cfg cs lo
    (fun p hp _ => hl.mono hp.length_le) _ _ (by rw [read, tryFrame_none h hl])
  exact readAll_end hr fuel

end Siot.Cobs
