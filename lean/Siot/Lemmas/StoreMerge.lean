import Siot.Lemmas.Hash
/- point identities and the merge loop of nodePoints / edgePoints -/
namespace Siot.Store
open Siot

def IdUnique (l : List Point) : Prop := l.Pairwise (fun a b => sameId a b = false)

theorem sameId_def (a b : Point) : sameId a b = (a.type == b.type && a.key == b.key) := rfl

theorem sameId_iff {a b : Point} : sameId a b = true ↔ a.type = b.type ∧ a.key = b.key := by simp [sameId]

theorem sameId_refl (a : Point) : sameId a a = true := sameId_iff.mpr ⟨rfl, rfl⟩

theorem sameId_symm (a b : Point) : sameId a b = sameId b a := by
  rw [Bool.eq_iff_iff, sameId_iff, sameId_iff, eq_comm, eq_comm (a := a.key)]

theorem sameId_congr {a b : Point} (h : sameId a b = true) (c : Point) : sameId a c = sameId b c := by
  unfold sameId; rw [(sameId_iff.mp h).1, (sameId_iff.mp h).2]

theorem sameId_trans {a b c : Point} (h1 : sameId a b = true) (h2 : sameId b c = true) : sameId a c = true := by
  rw [sameId_congr h1, h2]

theorem find_sameId {db : List Point} {p old : Point} (h : db.find? (sameId p) = some old) :
    old ∈ db ∧ sameId p old = true := ⟨List.mem_of_find?_eq_some h, List.find?_some h⟩

theorem find_sameId_eq_none {db : List Point} {p : Point} : db.find? (sameId p) = none ↔ ∀ q ∈ db, sameId p q = false := by
  simp

/-- one delivery through the merge loop -/
def upsert (rows : List Point) (p : Point) : List Point :=
  match rows.find? (sameId p) with
  | some old => if old.time ≤ p.time then rows.map (fun q => if sameId p q then p else q) else rows
  | none => rows ++ [p]

theorem mergeBatch_cons (db : List Point) (p : Point) (ps : List Point) :
    (mergeBatch db (p :: ps)).1 = (mergeBatch (upsert db p) ps).1 := by
  rw [mergeBatch, upsert]
  cases db.find? (sameId p) with
  | some old => dsimp only; split <;> rfl
  | none => rfl

theorem mergeBatch_fst : ∀ (db batch : List Point), (mergeBatch db batch).1 = batch.foldl upsert db
  | _, [] => rfl
  | db, p :: ps => (mergeBatch_cons db p ps).trans (mergeBatch_fst _ ps)

theorem mem_replace (db : List Point) (p x : Point) (hx : x ∈ db.map (fun q => if sameId p q then p else q)) :
    x = p ∨ (x ∈ db ∧ sameId p x = false) := by
  obtain ⟨q, hq, rfl⟩ := List.mem_map.mp hx
  cases h : sameId p q <;> simp [h, hq]

theorem mem_upsert {rows : List Point} {p x : Point} (hx : x ∈ upsert rows p) : x ∈ rows ∨ x = p := by
  unfold upsert at hx
  split at hx
  · split at hx
    · exact (mem_replace rows p x hx).symm.imp_left And.left
    · exact Or.inl hx
  · simpa using hx

theorem mem_mergeBatch {db batch : List Point} {x : Point} (h : x ∈ (mergeBatch db batch).1) : x ∈ db ∨ x ∈ batch := by
  rw [mergeBatch_fst] at h
  exact List.foldlRecOn (motive := fun acc => ∀ x ∈ acc, x ∈ db ∨ x ∈ batch) batch upsert (fun _ => .inl)
    (fun _ ih p hp x hx => (mem_upsert hx).elim (ih x) fun e => .inr (e ▸ hp)) x h

theorem forall_mem_mergeBatch {db batch : List Point} {P : Point → Prop} (hdb : ∀ p ∈ db, P p) (hb : ∀ p ∈ batch, P p) :
    ∀ p ∈ (mergeBatch db batch).1, P p :=
  fun p hp => (mem_mergeBatch hp).elim (hdb p) (hb p)

theorem idUnique_replace {db : List Point} (p : Point) (hu : IdUnique db) :
    IdUnique (db.map (fun q => if sameId p q then p else q)) := by
  refine (List.pairwise_map.mpr (hu.imp ?_))
  intro a b hab
  cases ha : sameId p a <;> cases hb : sameId p b
  · simpa using hab
  · simpa [sameId_symm a p] using ha
  · simpa using hb
  · rw [← sameId_congr ha, hb] at hab; cases hab

theorem idUnique_append {db : List Point} {p : Point} (hu : IdUnique db) (hn : db.find? (sameId p) = none) :
    IdUnique (db ++ [p]) :=
  List.pairwise_append.mpr ⟨hu, List.pairwise_singleton .., fun a ha b hb => by
    rw [List.mem_singleton.mp hb, sameId_symm]; exact find_sameId_eq_none.mp hn a ha⟩

theorem idUnique_upsert {rows : List Point} (p : Point) (hu : IdUnique rows) : IdUnique (upsert rows p) := by
  unfold upsert
  split
  · split
    · exact idUnique_replace p hu
    · exact hu
  · exact idUnique_append hu ‹_›

theorem idUnique_eq {l : List Point} (hu : IdUnique l) {x y : Point} (hx : x ∈ l) (hy : y ∈ l)
    (hs : sameId x y = true) : x = y :=
  List.Pairwise.forall_of_forall_of_flip (R := fun a b => sameId a b = true → a = b) (fun _ _ _ => rfl)
    (hu.imp fun h h' => by rw [h] at h'; cases h') (hu.imp fun h h' => by rw [sameId_symm, h] at h'; cases h') hx hy hs

/-- `find_sameId` with its converse (identities are unique), for the test written the other way round (`Sync.syncPts`) -/
theorem find_sameId_iff {U : List Point} (hU : IdUnique U) (p u : Point) :
    U.find? (fun q => sameId q p) = some u ↔ u ∈ U ∧ sameId u p = true := by
  refine ⟨fun h => ⟨List.mem_of_find?_eq_some h, (List.find?_some h :)⟩, fun ⟨hu, hs⟩ => ?_⟩
  cases hf : U.find? (fun q => sameId q p) with
  | none => exact absurd hs (List.find?_eq_none.mp hf u hu)
  | some u' =>
    rw [idUnique_eq hU (List.mem_of_find?_eq_some hf) hu (sameId_trans (List.find?_some hf :) (by rw [sameId_symm]; exact hs))]

theorem upsert_of_fresh {rows : List Point} {p : Point} (h : ∀ q ∈ rows, sameId p q = false) : upsert rows p = rows ++ [p] := by
  rw [upsert, find_sameId_eq_none.mpr h]

theorem mergeBatch_of_fresh {db batch : List Point} (hf : ∀ p ∈ batch, ∀ q ∈ db, sameId p q = false) (hu : IdUnique batch) :
    (mergeBatch db batch).1 = db ++ batch := by
  induction batch generalizing db with
  | nil => exact (List.append_nil db).symm
  | cons p ps ih =>
    rw [IdUnique, List.pairwise_cons] at hu
    rw [mergeBatch_fst, List.foldl_cons, upsert_of_fresh (hf p (List.mem_cons_self ..)), ← mergeBatch_fst, ih ?_ hu.2,
      List.append_assoc, List.singleton_append]
    intro p' hp' q hq
    rcases List.mem_append.mp hq with hq | hq
    · exact hf p' (List.mem_cons_of_mem _ hp') q hq
    · rw [List.mem_singleton.mp hq, sameId_symm]; exact hu.1 p' hp'

theorem collapse_of_idUnique {l : List Point} (h : IdUnique l) : collapse l = l := by
  induction l with
  | nil => rfl
  | cons p ps ih =>
    rw [IdUnique, List.pairwise_cons] at h
    rw [collapse, ih h.2, find_sameId_eq_none.mpr h.1]

theorem mergeBatch_idUnique {db : List Point} (hu : IdUnique db) (batch : List Point) : IdUnique (mergeBatch db batch).1 := by
  rw [mergeBatch_fst]
  exact List.foldlRecOn batch upsert hu fun _ h p _ => idUnique_upsert p h

theorem xs_replace {db : List Point} {p old : Point} (hu : IdUnique db) (hold : old ∈ db) (hs : sameId p old = true) :
    xs ((db.map (fun q => if sameId p q then p else q)).map pcrc) = xs (db.map pcrc) ^^^ pcrc old ^^^ pcrc p := by
  induction db with
  | nil => cases hold
  | cons x db ih =>
    rw [IdUnique, List.pairwise_cons] at hu
    rw [List.map_cons, List.map_cons, List.map_cons, xs_cons, xs_cons]
    rcases List.mem_cons.mp hold with rfl | hold
    · -- the head is replaced; no other row has its identity
      rw [if_pos hs, List.map_congr_left (g := id) fun q hq => by rw [sameId_congr hs, hu.1 q hq]; rfl, List.map_id,
        Nat.xor_comm (pcrc old), xcancel, Nat.xor_comm]
    · rw [sameId_congr hs, sameId_symm, hu.1 old hold, ih hu.2 hold]
      simp only [Bool.false_eq_true, if_false, Nat.xor_assoc]

theorem mergeBatch_xs {db : List Point} (hu : IdUnique db) (batch : List Point) :
    xs ((mergeBatch db batch).1.map pcrc) = xs (db.map pcrc) ^^^ (mergeBatch db batch).2 := by
  induction batch generalizing db with
  | nil => exact (Nat.xor_zero _).symm
  | cons p ps ih =>
    rw [mergeBatch]
    split
    · rename_i old hf
      obtain ⟨hold, hs⟩ := find_sameId hf
      split
      · dsimp only
        rw [ih (idUnique_replace p hu), xs_replace hu hold hs]
        ac_rfl
      · exact ih hu
    · rename_i hf
      dsimp only
      rw [ih (idUnique_append hu hf), List.map_append, xs_append, List.map_singleton, xs_single, Nat.xor_assoc,
        Nat.xor_comm (pcrc p)]

end Siot.Store
