import Siot.Lemmas.Proto3
import Siot.Lemmas.Pb
/- C12 at the byte level: what the canonical encoder writes for a message parses and decodes back to the same
   message. Every encoder is a concatenation of pieces, one per field; `Proto3.Reads` says what the decoder does on
   one piece, and a message is the chain of its pieces. -/
namespace Siot.Pb
open Siot Siot.Proto3

theorem str_valid {b : Bytes} (h : utf8Valid b = true) : str b = some b := if_pos h

section
variable {α γ : Type} {dec : α → List Field → Option γ} {num : Nat} {a : α}

/-- the string piece: `Proto3.reads_bytes` through the UTF-8 check `str` of these decoders -/
theorem reads_str {set : α → Bytes → α}
    (eq : ∀ a b fs, dec a ((num, .len b) :: fs) = (str b).bind fun s => dec (set a s) fs) (h0 : set a [] = a)
    {s : Bytes} (hs : utf8Valid s = true) (hl : s.length < 18446744073709551616)
    (hn : 1 ≤ num ∧ num ≤ 536870911 := by decide) : Reads dec a (encLenNZ num s) (set a s) := by
  rw [encLenNZ, encLen_eq]
  exact reads_opt (num, .len s) (fun hc => by rw [List.isEmpty_iff.1 hc, h0]) ⟨hn.1, hn.2, hl⟩
    (fun _ => by rw [eq, str_valid hs]; rfl)

end

theorem reads_timestamp (t : PbTimestamp) (h1 : Int64 t.seconds) (h2 : Int32 t.nanos) :
    Reads decTimestamp {} (encTimestamp t) t := by
  have r := reads_int (a := {}) decTimestamp.eq_2 rfl t.seconds
  have r := r.append (reads_int decTimestamp.eq_3 rfl t.nanos)
  rwa [toInt64_ofInt64 _ h1, toInt32_ofInt64 _ h2] at r

theorem encTimestamp_length (t : PbTimestamp) : (encTimestamp t).length ≤ 40 :=
  length_append_le (encIntNZ_length 1 t.seconds (by decide)) (encIntNZ_length 2 t.nanos (by decide))

/-- a pb.Point as this code base produces it: valid UTF-8 strings, values in range, lengths the wire can carry -/
structure PbPointOk (p : PbPoint) : Prop where
  type : utf8Valid p.type = true
  text : utf8Valid p.text = true
  key : utf8Valid p.key = true
  origin : utf8Valid p.origin = true
  value : p.value < 18446744073709551616
  tomb : Int32 p.tombstone
  time : ∀ t, p.time = some t → Int64 t.seconds ∧ Int32 t.nanos
  lens : p.type.length < 18446744073709551616 ∧ p.text.length < 18446744073709551616 ∧ p.key.length < 18446744073709551616 ∧
         p.origin.length < 18446744073709551616 ∧ p.data.length < 18446744073709551616

/-- the optional Timestamp sub-message of a point. The hypothesis on `o` stands behind the colon: in front of it,
    `match o` would abstract over it and no longer unfold to the `match` in `encPoint`. -/
theorem reads_time {a : PbPoint} (h0 : { a with time := none } = a) (o : Option PbTimestamp) :
    (∀ t, o = some t → Int64 t.seconds ∧ Int32 t.nanos) →
    Reads decPoint a (match o with | some t => encLen 5 (encTimestamp t) | none => []) { a with time := o } := by
  intro ho
  cases o with
  | none => exact h0.symm ▸ .nil
  | some t =>
    obtain ⟨tfs, hparse, hdec⟩ : ∃ tfs, parse (encTimestamp t) = some tfs ∧ decTimestamp {} tfs = some t :=
      Option.bind_eq_some_iff.1 (reads_timestamp t (ho t rfl).1 (ho t rfl).2).parse
    have ht : a.time = none := (congrArg PbPoint.time h0).symm
    have hf : FieldOk (5, .len (encTimestamp t)) :=
      ⟨(by decide : 1 ≤ 5), (by decide : 5 ≤ 536870911), Nat.lt_of_le_of_lt (encTimestamp_length t) (by decide)⟩
    simp only [encLen_eq]
    refine .field hf fun rest => ?_
    -- the fifth line of `decPoint`: parse the sub-message, merge it into the time the state holds (none: `ht`)
    rw [decPoint, hparse]
    simp only [ht, Option.getD_none, hdec]

theorem pointOfBytes_encPoint (p : PbPoint) (h : PbPointOk p) : pointOfBytes (encPoint p) = some p := by
  obtain ⟨l1, l2, l3, l4, l5⟩ := h.lens
  have r := reads_str (a := {}) decPoint.eq_2 rfl h.type l1
  have r := r.append (reads_fixed64 decPoint.eq_3 rfl h.value)
  have r := r.append (reads_time rfl p.time h.time)
  have r := r.append (reads_str decPoint.eq_5 rfl h.text l2)
  have r := r.append (reads_str decPoint.eq_6 rfl h.key l3)
  have r := r.append (reads_int decPoint.eq_7 rfl p.tombstone)
  have r := r.append (reads_bytes decPoint.eq_8 rfl l5)
  have r := (r.append (reads_str decPoint.eq_9 rfl h.origin l4)).parse
  simp only [toInt32_ofInt64 _ h.tomb] at r
  exact r

/-- the strings and the data of a point together stay below 2^63 bytes (protobuf-go itself refuses
    messages above 2 GiB) -/
def SmallPoint (p : PbPoint) : Prop :=
  p.type.length + p.text.length + p.key.length + p.origin.length + p.data.length < 9223372036854775808

theorem encTime_length (o : Option PbTimestamp) :
    (match o with | some t => encLen 5 (encTimestamp t) | none => []).length ≤ 10 + 10 + 40 := by
  cases o with
  | none => exact Nat.zero_le _
  | some t =>
    have h := encTimestamp_length t
    exact Nat.le_trans (encLen_length 5 _ (by decide) (Nat.lt_of_le_of_lt h (by decide))) (Nat.add_le_add_left h _)

/-- 200: seven pieces of at most 20 bytes around their payload, and the time piece of at most 60 -/
theorem encPoint_length (p : PbPoint) (h : SmallPoint p) :
    (encPoint p).length ≤ p.type.length + p.text.length + p.key.length + p.origin.length + p.data.length + 200 := by
  unfold SmallPoint at h
  have r := length_append_le (encLenNZ_length 2 p.type (by decide) (by omega))
    (encFixed64NZ_length 4 p.value (by decide))
  have r := length_append_le r (encTime_length p.time)
  have r := length_append_le r (encLenNZ_length 8 p.text (by decide) (by omega))
  have r := length_append_le r (encLenNZ_length 11 p.key (by decide) (by omega))
  have r := length_append_le r (encIntNZ_length 12 p.tombstone (by decide))
  have r := length_append_le r (encLenNZ_length 14 p.data (by decide) (by omega))
  have r := length_append_le r (encLenNZ_length 15 p.origin (by decide) (by omega))
  exact Nat.le_trans r (by omega)

/-- such a point can itself be a length-delimited field -/
theorem encPoint_length64 (p : PbPoint) (h : SmallPoint p) : (encPoint p).length < 18446744073709551616 := by
  have hle := encPoint_length p h
  unfold SmallPoint at h
  omega

/-- what `reads_rep` asks of each element, for a repeated Point field -/
theorem point_elem {q : PbPoint} (h : PbPointOk q ∧ SmallPoint q) :
    pointOfBytes (encPoint q) = some q ∧ (encPoint q).length < 18446744073709551616 :=
  ⟨pointOfBytes_encPoint q h.1, encPoint_length64 q h.2⟩

theorem points_bytes (qs : List PbPoint) (h : ∀ q ∈ qs, PbPointOk q ∧ SmallPoint q) :
    (parse (encPoints qs)).bind (decPointsField 1 []) = some qs := by
  -- the second line of `decPointsField`, at the field number it looks for
  have eq (acc : List PbPoint) (b : Bytes) (fs : List Field) : decPointsField 1 acc ((1, .len b) :: fs) =
      (pointOfBytes b).bind fun p => decPointsField 1 (acc ++ [p]) fs :=
    (decPointsField.eq_2 ..).trans (if_pos rfl)
  have r : Reads (decPointsField 1) [] (encPoints qs) qs :=
    reads_rep eq (acc := id) (hacc := fun _ _ => rfl) (xs := qs) (hx := fun q hq => point_elem (h q hq))
  exact r.parse

structure PbNodeOk (n : PbNode) : Prop where
  id : utf8Valid n.id = true
  type : utf8Valid n.type = true
  parent : utf8Valid n.parent = true
  hash : Int32 n.hash
  lens : n.id.length < 18446744073709551616 ∧ n.type.length < 18446744073709551616 ∧ n.parent.length < 18446744073709551616
  points : ∀ q ∈ n.points ++ n.edgePoints, PbPointOk q ∧ SmallPoint q

theorem nodeOfBytes_encNode (n : PbNode) (h : PbNodeOk n) : nodeOfBytes {} (encNode n) = some n := by
  obtain ⟨l1, l2, l3⟩ := h.lens
  have r := reads_str (a := {}) decNode.eq_2 rfl h.id l1
  have r := r.append (reads_str decNode.eq_3 rfl h.type l2)
  have r := r.append (reads_rep decNode.eq_4 (acc := fun l => { id := n.id, type := n.type, points := l })
    (hacc := fun _ _ => rfl) (xs := n.points) (hx := fun q hq => point_elem (h.points q (List.mem_append_left _ hq))))
  have r := r.append (reads_int decNode.eq_5 rfl n.hash)
  simp only [toInt32_ofInt64 _ h.hash] at r
  have r := r.append (reads_str decNode.eq_6 rfl h.parent l3)
  have r := r.append (reads_rep decNode.eq_7 (acc := fun l => { n with edgePoints := l }) (hacc := fun _ _ => rfl)
    (xs := n.edgePoints) (hx := fun q hq => point_elem (h.points q (List.mem_append_right _ hq))))
  exact r.parse

theorem nodes_bytes (withErr : Bool) (ns : List PbNode)
    (h : ∀ n ∈ ns, PbNodeOk n ∧ (encNode n).length < 18446744073709551616) :
    (parse (encNodes ns)).bind (decNodesRequest [] [] withErr) = some (ns, []) := by
  have r : Reads (fun l => decNodesRequest l [] withErr) [] (encNodes ns) ns :=
    reads_rep (fun l => decNodesRequest.eq_2 l [] withErr) (acc := id) (hacc := fun _ _ => rfl) (xs := ns)
      (hx := fun n hn => ⟨nodeOfBytes_encNode n (h n hn).1, (h n hn).2⟩)
  exact r.parse

structure PbSerialOk (p : PbSerialPoint) : Prop where
  type : utf8Valid p.type = true
  text : utf8Valid p.text = true
  key : utf8Valid p.key = true
  origin : utf8Valid p.origin = true
  value : p.value < 4294967296
  tomb : Int32 p.tombstone
  time : Int64 p.time
  lens : p.type.length < 18446744073709551616 ∧ p.text.length < 18446744073709551616 ∧ p.key.length < 18446744073709551616 ∧
         p.origin.length < 18446744073709551616 ∧ p.data.length < 18446744073709551616

theorem decSerialPoint_encSerialPoint (p : PbSerialPoint) (h : PbSerialOk p) :
    (parse (encSerialPoint p)).bind (decSerialPoint {}) = some p := by
  obtain ⟨l1, l2, l3, l4, l5⟩ := h.lens
  have r := reads_str (a := {}) decSerialPoint.eq_2 rfl h.type l1
  have r := r.append (reads_fixed32 decSerialPoint.eq_3 rfl h.value)
  have r := r.append (reads_str decSerialPoint.eq_5 rfl h.text l2)
  have r := r.append (reads_str decSerialPoint.eq_6 rfl h.key l3)
  have r := r.append (reads_int decSerialPoint.eq_7 rfl p.tombstone)
  have r := r.append (reads_bytes decSerialPoint.eq_8 rfl l5)
  have r := r.append (reads_str decSerialPoint.eq_9 rfl h.origin l4)
  have r := (r.append (reads_int decSerialPoint.eq_4 rfl p.time)).parse
  simp only [toInt32_ofInt64 _ h.tomb, toInt64_ofInt64 _ h.time] at r
  exact r

theorem serial_points_bytes (qs : List PbSerialPoint)
    (h : ∀ q ∈ qs, PbSerialOk q ∧ (encSerialPoint q).length < 18446744073709551616) :
    (parse (encSerialPoints qs)).bind (decSerialPoints []) = some qs := by
  have r : Reads decSerialPoints [] (encSerialPoints qs) qs :=
    reads_rep decSerialPoints.eq_2 (acc := id) (hacc := fun _ _ => rfl) (xs := qs)
      (hx := fun q hq => ⟨decSerialPoint_encSerialPoint q (h q hq).1, (h q hq).2⟩)
  exact r.parse

end Siot.Pb
