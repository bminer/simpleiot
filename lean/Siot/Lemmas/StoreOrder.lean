import Siot.Lemmas.StoreOps
import Siot.Lemmas.LWW
/-
The order in which a store only ever moves: every row stays or is replaced by a newer-or-equal point of its identity.
Every write request, accepted or refused, moves the store forward in this order (what C02, C04 and C20 mean by "nothing is
lost").
-/
namespace Siot.Sync
open Siot Siot.Store

theorem mergeBatch_le {rows : List Point} (hu : IdUnique rows) (batch : List Point) : RowsLe rows (mergeBatch rows batch).1 :=
  (RowsLe.of_subset fun _ => List.mem_append_left _).trans (rowsLe_mergeBatch hu batch)

structure StLe (s s' : St) : Prop where
  nodes : ∀ id, RowsLe (ptsOf s id) (ptsOf s' id)
  edges : ∀ u d, RowsLe (eptsOf s u d) (eptsOf s' u d)

theorem StLe.refl (s : St) : StLe s s := ⟨fun _ => RowsLe.refl _, fun _ _ => RowsLe.refl _⟩
theorem StLe.trans {a b c : St} (h1 : StLe a b) (h2 : StLe b c) : StLe a c :=
  ⟨fun id => (h1.nodes id).trans (h2.nodes id), fun u d => (h1.edges u d).trans (h2.edges u d)⟩

theorem nodeWrite_le {st : St} (hinv : Inv st) (id : Bytes) (batch : List Point) : StLe st (nodeWrite st id batch) := by
  refine ⟨fun n => ?_, fun _ _ => .refl _⟩
  rw [ptsOf_nodeWrite]
  split
  · subst n
    exact mergeBatch_le (hinv.npu id) _
  · exact .refl _

theorem edgeWrite_le {st : St} (hinv : Inv st) (u d : Bytes) (batch : List Point) : StLe st (edgeWrite st u d batch) := by
  refine ⟨fun _ => .refl _, fun u' d' => ?_⟩
  rw [eptsOf_edgeWrite]
  split
  · rename_i hk
    cases hk
    exact mergeBatch_le (hinv.epu (u, d)) _
  · exact .refl _

theorem edgeInsert_le (st : St) (u d typ : Bytes) (batch : List Point) : StLe st (edgeInsert st u d typ batch) := by
  refine ⟨fun _ => .refl _, fun u' d' => ?_⟩
  rw [eptsOf_edgeInsert]
  exact .of_subset fun _ => List.mem_append_left _

theorem step_le {st : St} (hinv : Inv st) (op : WOp) : StLe st (step st op).1 := by
  obtain h | ⟨st', h, hw⟩ := step_cases st op <;> rw [h]
  · exact .refl st
  · cases hw with
    | np id pts => exact nodeWrite_le hinv id _
    | write node parent pts => exact edgeWrite_le hinv _ node _
    | insert node parent pts => exact edgeInsert_le st _ node _ _

/-- an accepted request is its `step` -/
theorem step_np_fst {st st' : St} {id : Bytes} {pts : List Point} (h : nodePoints st id pts = .ok st') :
    (step st (.np id pts)).1 = st' := by
  rw [step, h]

theorem step_ep_fst {st st' : St} {node parent : Bytes} {pts : List Point} (h : edgePoints st node parent pts = .ok st') :
    (step st (.ep node parent pts)).1 = st' := by
  rw [step, h]

theorem nodePoints_le {st st' : St} (hinv : Inv st) {id : Bytes} {pts : List Point} (h : nodePoints st id pts = .ok st') : StLe st st' :=
  step_np_fst h ▸ step_le hinv _

theorem edgePointsCore_le {st st' : St} (hinv : Inv st) {node u : Bytes} {pts : List Point}
    (h : edgePointsCore st node u pts = .ok st') : StLe st st' := by
  obtain ⟨_, rfl⟩ | ⟨_, _, _, rfl⟩ := edgePointsCore_ok_iff.mp h
  · exact edgeWrite_le hinv u node _
  · exact edgeInsert_le st u node _ _

theorem edgePoints_le {st st' : St} (hinv : Inv st) {node parent : Bytes} {pts : List Point}
    (h : edgePoints st node parent pts = .ok st') : StLe st st' :=
  step_ep_fst h ▸ step_le hinv _

def Fwd (s0 s : St) : Prop := Inv s ∧ StLe s0 s

theorem Fwd.step {s0 s : St} (h : Fwd s0 s) (op : WOp) : Fwd s0 (Store.step s op).1 :=
  ⟨h.1.step op, h.2.trans (step_le h.1 op)⟩

theorem Fwd.np {s0 s s' : St} (h : Fwd s0 s) {id : Bytes} {pts : List Point} (hs : nodePoints s id pts = .ok s') : Fwd s0 s' :=
  step_np_fst hs ▸ h.step _

theorem Fwd.ep {s0 s s' : St} (h : Fwd s0 s) {id parent : Bytes} {pts : List Point} (hs : edgePoints s id parent pts = .ok s') :
    Fwd s0 s' :=
  step_ep_fst hs ▸ h.step _

theorem Fwd.run {s0 s : St} (h : Fwd s0 s) (ops : List WOp) : Fwd s0 (Store.run s ops) :=
  Store.run_induct (fun _ op h => h.step op) ops h

theorem run_prefix_le {st : St} (h : Inv st) (a b : List WOp) : StLe (Store.run st a) (Store.run st (a ++ b)) := by
  induction a generalizing st with
  | nil => exact (Fwd.run ⟨h, .refl st⟩ b).2
  | cons op a ih => exact ih (h.step op)

theorem run_take_le {st : St} (h : Inv st) (ops : List WOp) {i j : Nat} (hij : i ≤ j) :
    StLe (Store.run st (ops.take i)) (Store.run st (ops.take j)) := by
  have hj := List.take_append_drop i (ops.take j)
  rw [List.take_take, Nat.min_eq_left hij] at hj
  rw [← hj]
  exact run_prefix_le h _ _

end Siot.Sync
