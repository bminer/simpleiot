import Siot.Model.Proto3
/- What the canonical encoder writes is `encFields` of a list of well-formed fields, and `parse` gives that list back.
   `Reads` carries this over to a message decoder that runs over one piece of the bytes, so that a message can be taken
   piece by piece. -/

/- the ranges of int32 and int64, named in `Siot.Pb`, where the statements of Props/C12.lean use them -/
namespace Siot.Pb

def Int32 (i : Int) : Prop := -2147483648 ≤ i ∧ i ≤ 2147483647

def Int64 (i : Int) : Prop := -9223372036854775808 ≤ i ∧ i ≤ 9223372036854775807

end Siot.Pb

namespace Siot.Proto3
open Siot

theorem toInt32_eq_bmod (n : Nat) : toInt32 n = (n : Int).bmod 4294967296 := by
  simp only [toInt32]
  split
  · next h => exact (Int.bmod_neg n 4294967296 (Int.ofNat_le.2 h)).symm
  · next h => exact Eq.symm (Int.bmod_eq_emod_of_lt (Int.ofNat_lt.2 (Nat.not_le.1 h)))

theorem toInt64_eq_bmod (n : Nat) : toInt64 n = (n : Int).bmod 18446744073709551616 := by
  simp only [toInt64]
  split
  · next h => exact (Int.bmod_neg n 18446744073709551616 (Int.ofNat_le.2 h)).symm
  · next h => exact Eq.symm (Int.bmod_eq_emod_of_lt (Int.ofNat_lt.2 (Nat.not_le.1 h)))

theorem ofInt64_cast (i : Int) : (ofInt64 i : Int) = i % (18446744073709551616 : Nat) :=
  Int.toNat_of_nonneg (Int.emod_nonneg _ (by decide))

theorem ofInt64_lt (i : Int) : ofInt64 i < 18446744073709551616 :=
  Int.ofNat_lt.1 (ofInt64_cast i ▸ Int.emod_lt_of_pos i (by decide))

theorem toInt64_ofInt64 (i : Int) (h : Pb.Int64 i) : toInt64 (ofInt64 i) = i := by
  rw [toInt64_eq_bmod, ofInt64_cast, Int.emod_bmod]
  exact Int.bmod_eq_of_le h.1 (Int.lt_add_one_of_le h.2)

theorem toInt32_ofInt64 (i : Int) (h : Pb.Int32 i) : toInt32 (ofInt64 i) = i := by
  rw [toInt32_eq_bmod, ofInt64_cast, ← Int.bmod_bmod_of_dvd (n := 4294967296) (m := 18446744073709551616) (by decide),
    Int.emod_bmod, Int.bmod_bmod_of_dvd (by decide)]
  exact Int.bmod_eq_of_le h.1 (Int.lt_add_one_of_le h.2)

/-- `uint32(int32(h))`, the way a node's hash travels -/
theorem toInt32_emod_toNat (n : Nat) : (toInt32 n % 4294967296).toNat = n % 4294967296 := by
  rw [toInt32_eq_bmod]
  exact congrArg Int.toNat (Int.bmod_emod (x := n) (m := 4294967296))

/-- the low seven bits at `shift`, the others seven places up -/
theorem varint_split (v shift : Nat) : v % 128 * 2 ^ shift + v / 128 * 2 ^ (shift + 7) = v * 2 ^ shift := by
  rw [Nat.pow_add, ← Nat.mul_assoc, Nat.mul_right_comm, ← Nat.add_mul, Nat.mul_comm _ (2 ^ 7),
    show 2 ^ 7 = 128 from rfl, Nat.mod_add_div]

/-- `k + 1` bytes of budget are left; the last of them may only hold one bit, hence `2 · 128 ^ k` -/
theorem varintAux_encode (k v shift acc : Nat) (rest : Bytes) (hv : v < 2 * 128 ^ k) :
    varintAux (k + 1) shift acc (encodeVarint v ++ rest) = some (acc + v * 2 ^ shift, rest) := by
  induction k generalizing v shift acc with
  | zero =>
    have h : v < 128 := Nat.lt_trans hv (by decide)
    rw [encodeVarint, dif_pos h]
    simp only [List.cons_append, List.nil_append, varintAux, UInt8.toNat_ofNat_of_lt' (Nat.lt_trans h (by decide))]
    rw [if_pos h, if_neg fun h2 => Nat.not_le.2 hv h2.2]
  | succ k ih =>
    rw [encodeVarint]
    split
    · next h =>
      simp only [List.cons_append, List.nil_append, varintAux, UInt8.toNat_ofNat_of_lt' (Nat.lt_trans h (by decide))]
      rw [if_pos h, if_neg fun h2 => Nat.succ_ne_zero k h2.1]
    · have hd : v / 128 < 2 * 128 ^ k :=
        Nat.div_lt_of_lt_mul (by rwa [Nat.pow_succ, ← Nat.mul_assoc, Nat.mul_comm] at hv)
      simp only [List.cons_append, varintAux,
        UInt8.toNat_ofNat_of_lt' (Nat.add_lt_add_right (Nat.mod_lt v (by decide : 0 < 128)) 128)]
      rw [if_neg (Nat.not_lt.2 (Nat.le_add_left ..)), if_neg (Nat.succ_ne_zero k), ih _ _ _ hd]
      rw [Nat.add_sub_cancel, Nat.add_assoc, varint_split]

theorem decodeVarint_encode (v : Nat) (hv : v < 18446744073709551616) (rest : Bytes) :
    decodeVarint (encodeVarint v ++ rest) = some (v, rest) := by
  simpa [decodeVarint] using varintAux_encode 9 v 0 0 rest hv

theorem encodeVarint_ne_nil (v : Nat) : encodeVarint v ≠ [] := by
  rw [encodeVarint]
  split <;> simp

theorem takeN_append (x rest : Bytes) : takeN x.length (x ++ rest) = some (x, rest) := by
  simp [takeN]

theorem leBytes_length (n v : Nat) : (leBytes n v).length = n := by
  induction n generalizing v with
  | zero => rfl
  | succ n ih => rw [leBytes, List.length_cons, ih]

theorem leNat_leBytes (n v : Nat) (h : v < 256 ^ n) : leNat (leBytes n v) = v := by
  induction n generalizing v with
  | zero => exact (Nat.lt_one_iff.1 h).symm
  | succ n ih =>
    have hd : v / 256 < 256 ^ n := Nat.div_lt_of_lt_mul (by rwa [Nat.pow_succ, Nat.mul_comm] at h)
    rw [leBytes, leNat, UInt8.toNat_ofNat_of_lt' (Nat.mod_lt _ (by decide)), ih _ hd, Nat.mod_add_div]

/-- the wire type in the tag (`protowire.Type`) -/
def wireType : WVal → Nat
  | .varint _ => 0
  | .fixed64 _ => 1
  | .len _ => 2
  | .group => 3
  | .fixed32 _ => 5

def encVal : WVal → Bytes
  | .varint v => encodeVarint v
  | .fixed64 v => leBytes 8 v
  | .len b => encodeVarint b.length ++ b
  | .fixed32 v => leBytes 4 v
  | .group => []

def encField (f : Field) : Bytes := tag f.1 (wireType f.2) ++ encVal f.2

def encFields (fs : List Field) : Bytes := fs.flatMap encField

/-- the values the encoders of this code base produce: in range, and never a group -/
def WValOk : WVal → Prop
  | .varint v => v < 18446744073709551616
  | .fixed64 v => v < 18446744073709551616
  | .len b => b.length < 18446744073709551616
  | .fixed32 v => v < 4294967296
  | .group => False

def FieldOk (f : Field) : Prop := 1 ≤ f.1 ∧ f.1 ≤ 536870911 ∧ WValOk f.2

theorem tag_length_pos (num wt : Nat) : 0 < (tag num wt).length :=
  List.length_pos_iff.2 (encodeVarint_ne_nil _)

theorem encField_ne_nil (f : Field) : encField f ≠ [] := by
  simp [encField, tag, encodeVarint_ne_nil]

theorem encLen_eq (num : Nat) (b : Bytes) : encLen num b = encField (num, .len b) :=
  List.append_assoc ..

theorem tag_decode (num wt : Nat) (hn : num ≤ 536870911) (hw : wt < 8) (rest : Bytes) :
    decodeVarint (tag num wt ++ rest) = some (8 * num + wt, rest) :=
  Nat.mul_comm .. ▸ decodeVarint_encode _ (by omega) rest

theorem takeN_leBytes (n v : Nat) (rest : Bytes) : takeN n (leBytes n v ++ rest) = some (leBytes n v, rest) := by
  simpa only [leBytes_length] using takeN_append (leBytes n v) rest

theorem consumeScalar_encVal (v : WVal) (hv : WValOk v) (rest : Bytes) :
    consumeScalar (wireType v) (encVal v ++ rest) = some (v, rest) := by
  cases v with
  | varint v => simp only [wireType, encVal, consumeScalar, decodeVarint_encode v hv, Option.map_some]
  | fixed64 v => simp only [wireType, encVal, consumeScalar, takeN_leBytes, Option.map_some, leNat_leBytes 8 v hv]
  | len b =>
    simp only [wireType, encVal, consumeScalar, List.append_assoc, decodeVarint_encode _ hv, takeN_append,
      Option.map_some]
  | fixed32 v => simp only [wireType, encVal, consumeScalar, takeN_leBytes, Option.map_some, leNat_leBytes 4 v hv]
  | group => exact hv.elim

theorem parseFields_cons (fuel : Nat) (f : Field) (hf : FieldOk f) (rest : Bytes) :
    parseFields (fuel + 1) (encField f ++ rest) = (parseFields fuel rest).map (fun fs => f :: fs) := by
  obtain ⟨num, v⟩ := f
  obtain ⟨h1, h2, hv⟩ := hf
  have hw : wireType v < 8 ∧ wireType v ≠ 4 ∧ wireType v ≠ 3 := by
    cases v with
    | group => exact hv.elim
    | _ => simp [wireType]
  -- `parseFields.eq_3` is the third line of `parseFields`; its side condition is that the input is not empty
  rw [parseFields.eq_3 _ _ (List.append_ne_nil_of_left_ne_nil (encField_ne_nil _) _), encField, List.append_assoc,
    tag_decode num _ h2 hw.1]
  simp only [Nat.mul_add_div (by decide : 0 < 8), Nat.mul_add_mod, Nat.div_eq_of_lt hw.1, Nat.mod_eq_of_lt hw.1,
    Nat.add_zero]
  rw [if_neg fun h => h.elim (Nat.not_lt.2 h1) (Nat.not_lt.2 h2), if_neg hw.2.1, if_neg hw.2.2,
    consumeScalar_encVal v hv]

/-- one unit of fuel per field -/
theorem parseFields_encFields (fs : List Field) (fuel : Nat) (hok : ∀ f ∈ fs, FieldOk f) (hfuel : fs.length ≤ fuel) :
    parseFields fuel (encFields fs) = some fs := by
  induction fs generalizing fuel with
  | nil => cases fuel <;> rfl
  | cons f fs ih =>
    cases fuel with
    | zero => exact absurd hfuel (Nat.not_succ_le_zero _)
    | succ fuel =>
      rw [show encFields (f :: fs) = encField f ++ encFields fs from rfl, parseFields_cons fuel f (hok f (.head _)),
        ih fuel (fun g hg => hok g (.tail _ hg)) (Nat.le_of_succ_le_succ hfuel)]
      rfl

/-- a field takes at least one byte, so `parse` has fuel enough -/
theorem encFields_length_ge (fs : List Field) : fs.length ≤ (encFields fs).length := by
  induction fs with
  | nil => exact Nat.le_refl _
  | cons f fs ih =>
    rw [show encFields (f :: fs) = encField f ++ encFields fs from rfl, List.length_append, List.length_cons,
      Nat.add_comm]
    exact Nat.add_le_add (List.length_pos_iff.2 (encField_ne_nil f)) ih

theorem parse_encFields (fs : List Field) (hok : ∀ f ∈ fs, FieldOk f) : parse (encFields fs) = some fs :=
  parseFields_encFields fs _ hok (Nat.le_succ_of_le (encFields_length_ge fs))

/-- the bytes `b` are the canonical encoding of well-formed fields that take the decoder `dec` from the state `a`
    to the state `a'`, whatever follows them -/
def Reads {α γ : Type} (dec : α → List Field → Option γ) (a : α) (b : Bytes) (a' : α) : Prop :=
  ∃ fs, b = encFields fs ∧ (∀ f ∈ fs, FieldOk f) ∧ ∀ rest, dec a (fs ++ rest) = dec a' rest

variable {α γ : Type} {dec : α → List Field → Option γ} {a a₁ a₂ : α} {b b₁ b₂ : Bytes}

theorem Reads.nil : Reads dec a [] a := ⟨[], rfl, List.forall_mem_nil _, fun _ => rfl⟩

theorem Reads.field {f : Field} (hf : FieldOk f) (h : ∀ rest, dec a (f :: rest) = dec a₁ rest) :
    Reads dec a (encField f) a₁ :=
  ⟨[f], (List.append_nil _).symm, List.forall_mem_singleton.2 hf, h⟩

theorem Reads.append (h₁ : Reads dec a b₁ a₁) (h₂ : Reads dec a₁ b₂ a₂) : Reads dec a (b₁ ++ b₂) a₂ := by
  obtain ⟨fs₁, rfl, ok₁, d₁⟩ := h₁
  obtain ⟨fs₂, rfl, ok₂, d₂⟩ := h₂
  exact ⟨fs₁ ++ fs₂, List.flatMap_append.symm, List.forall_mem_append.2 ⟨ok₁, ok₂⟩,
    fun rest => by rw [List.append_assoc, d₁, d₂]⟩

theorem Reads.parse (h : Reads dec a b a₁) : (parse b).bind (dec a) = dec a₁ [] := by
  obtain ⟨fs, rfl, ok, d⟩ := h
  rw [parse_encFields fs ok, Option.bind_some, ← d, List.append_nil]

/-! In each lemma `eq` is the decoder's own equation for the field (`decPoint.eq_2` is the second line of `decPoint`);
it fixes the field number and the way the state is updated. -/
section pieces
variable {num : Nat}

/-- a piece that is left out when the value is the default, which the state then holds already -/
theorem reads_opt {c : Prop} [Decidable c] (f : Field) (h0 : c → a₁ = a) (hf : FieldOk f)
    (h : ∀ rest, dec a (f :: rest) = dec a₁ rest) : Reads dec a (if c then [] else encField f) a₁ := by
  split
  · next hc => exact h0 hc ▸ .nil
  · exact .field hf h

theorem reads_bytes {set : α → Bytes → α} (eq : ∀ a b fs, dec a ((num, .len b) :: fs) = dec (set a b) fs)
    (h0 : set a [] = a) {s : Bytes} (hl : s.length < 18446744073709551616)
    (hn : 1 ≤ num ∧ num ≤ 536870911 := by decide) : Reads dec a (encLenNZ num s) (set a s) := by
  rw [encLenNZ, encLen_eq]
  exact reads_opt (num, .len s) (fun hc => by rw [List.isEmpty_iff.1 hc, h0]) ⟨hn.1, hn.2, hl⟩ (fun _ => eq ..)

/-- an int32 or int64 field. The decoder's `toInt32` or `toInt64` is part of `set`, so the state reached is written
    with `ofInt64 i`; the caller turns it into `i` by `toInt32_ofInt64` or `toInt64_ofInt64`. -/
theorem reads_int {set : α → Nat → α} (eq : ∀ a v fs, dec a ((num, .varint v) :: fs) = dec (set a v) fs)
    (h0 : set a 0 = a) (i : Int) (hn : 1 ≤ num ∧ num ≤ 536870911 := by decide) :
    Reads dec a (encIntNZ num i) (set a (ofInt64 i)) :=
  reads_opt (num, .varint (ofInt64 i)) (fun hc => by rw [hc]; exact h0) ⟨hn.1, hn.2, ofInt64_lt i⟩ (fun _ => eq ..)

theorem reads_fixed64 {set : α → Nat → α} (eq : ∀ a v fs, dec a ((num, .fixed64 v) :: fs) = dec (set a v) fs)
    (h0 : set a 0 = a) {v : Nat} (hv : v < 18446744073709551616) (hn : 1 ≤ num ∧ num ≤ 536870911 := by decide) :
    Reads dec a (encFixed64NZ num v) (set a v) :=
  reads_opt (num, .fixed64 v) (fun hc => by rw [hc, h0]) ⟨hn.1, hn.2, hv⟩ (fun _ => eq ..)

theorem reads_fixed32 {set : α → Nat → α} (eq : ∀ a v fs, dec a ((num, .fixed32 v) :: fs) = dec (set a v) fs)
    (h0 : set a 0 = a) {v : Nat} (hv : v < 4294967296) (hn : 1 ≤ num ∧ num ≤ 536870911 := by decide) :
    Reads dec a (encFixed32NZ num v) (set a v) :=
  reads_opt (num, .fixed32 v) (fun hc => by rw [hc, h0]) ⟨hn.1, hn.2, hv⟩ (fun _ => eq ..)

/-- a repeated sub-message: `acc l` is the state after the elements `l` have been read -/
theorem reads_rep {β : Type} {ofBytes : Bytes → Option β} {enc : β → Bytes} {push : α → β → α}
    (eq : ∀ a b fs, dec a ((num, .len b) :: fs) = (ofBytes b).bind fun x => dec (push a x) fs)
    (acc : List β → α) (hacc : ∀ l x, push (acc l) x = acc (l ++ [x])) (xs : List β)
    (hx : ∀ x ∈ xs, ofBytes (enc x) = some x ∧ (enc x).length < 18446744073709551616)
    (hn : 1 ≤ num ∧ num ≤ 536870911 := by decide) :
    Reads dec (acc []) (xs.flatMap fun x => encLen num (enc x)) (acc xs) := by
  suffices ∀ l, Reads dec (acc l) (xs.flatMap fun x => encLen num (enc x)) (acc (l ++ xs)) from this []
  induction xs with
  | nil => intro l; rw [List.append_nil]; exact .nil
  | cons x xs ih =>
    intro l
    obtain ⟨hx1, hx2⟩ := hx x (.head _)
    rw [List.flatMap_cons, encLen_eq, List.append_cons l]
    exact .append (.field (f := (num, .len (enc x))) ⟨hn.1, hn.2, hx2⟩ fun _ => by rw [eq, hx1, ← hacc]; rfl)
      (ih (fun y hy => hx y (.tail _ hy)) _)

end pieces

/- sizes: a tag and a varint take at most 10 bytes each, so a piece is at most 20 bytes longer than its payload -/

theorem encodeVarint_length (k v : Nat) (hv : v < 128 ^ (k + 1)) : (encodeVarint v).length ≤ k + 1 := by
  induction k generalizing v with
  | zero => rw [encodeVarint, dif_pos hv]; exact Nat.le_refl _
  | succ k ih =>
    rw [encodeVarint]
    split
    · exact Nat.le_add_left ..
    · exact Nat.succ_le_succ (ih _ (Nat.div_lt_of_lt_mul (by rwa [Nat.pow_succ, Nat.mul_comm] at hv)))

theorem varint_len10 (v : Nat) (hv : v < 18446744073709551616) : (encodeVarint v).length ≤ 10 :=
  encodeVarint_length 9 v (Nat.lt_trans hv (by decide))

theorem tag_len10 (num wt : Nat) (hn : num ≤ 536870911) (hw : wt < 8) : (tag num wt).length ≤ 10 :=
  varint_len10 _ (by omega)

theorem length_append_le {a b : Bytes} {m n : Nat} (ha : a.length ≤ m) (hb : b.length ≤ n) : (a ++ b).length ≤ m + n :=
  List.length_append ▸ Nat.add_le_add ha hb

theorem encLen_length (num : Nat) (b : Bytes) (hn : num ≤ 536870911) (hb : b.length < 18446744073709551616) :
    (encLen num b).length ≤ 10 + 10 + b.length :=
  length_append_le (length_append_le (tag_len10 num 2 hn (by decide)) (varint_len10 _ hb)) (Nat.le_refl _)

theorem encLenNZ_length (num : Nat) (b : Bytes) (hn : num ≤ 536870911) (hb : b.length < 18446744073709551616) :
    (encLenNZ num b).length ≤ 10 + 10 + b.length := by
  unfold encLenNZ
  split
  · exact Nat.zero_le _
  · exact encLen_length num b hn hb

theorem encIntNZ_length (num : Nat) (i : Int) (hn : num ≤ 536870911) : (encIntNZ num i).length ≤ 10 + 10 := by
  unfold encIntNZ
  split
  · exact Nat.zero_le _
  · exact length_append_le (tag_len10 num 0 hn (by decide)) (varint_len10 _ (ofInt64_lt i))

theorem encFixed64NZ_length (num : Nat) (v : Nat) (hn : num ≤ 536870911) :
    (encFixed64NZ num v).length ≤ 10 + 8 := by
  unfold encFixed64NZ
  split
  · exact Nat.zero_le _
  · exact length_append_le (tag_len10 num 1 hn (by decide)) (Nat.le_of_eq (leBytes_length 8 v))

end Siot.Proto3
