import Siot.Model.Export
import Siot.Lemmas.StoreShape
/-
The store-level step shared by C15 (import of an exported node) and C02 (a node the upstream store does not know):
`SendNode` of a node unknown to the store — `nodePoints` with its points, then `edgePoints` with its edge points and its
node type — given only what the store makes of the points sent.
-/
namespace Siot.Export
open Siot Siot.Store

/-- the node is unknown to the store -/
structure Fresh (st : St) (x : Bytes) : Prop where
  edges : ∀ e ∈ st.edges, e.up ≠ x ∧ e.down ≠ x
  pts : ptsOf st x = []
  epts : ∀ u, eptsOf st u x = []
  root : x ≠ st.root

/-- `st'` is `st` with the node `d` added below `u`: its edge last in the tree, rows `ps` of the node and `E` of the edge,
    nothing else touched (`sendNode_core` and `sendNode_fresh` spell the four out) -/
structure Added (st st' : St) (u d typ : Bytes) (ps E : List Point) : Prop where
  tree : st'.edges.map shape = st.edges.map shape ++ [(u, d, typ)]
  pts : ∀ y, ptsOf st' y = if y = d then ps else ptsOf st y
  epts : ∀ a b, eptsOf st' a b = if (a, b) = (u, d) then E else eptsOf st a b
  root : st'.root = st.root

/-- what the store makes of the points sent for a new node: rows `ps` for the node, `E` for the edge, `nt` the node type point -/
structure Sent (pts eps ps E : List Point) (nt : Point) : Prop where
  rows : pts.map normPoint = ps
  nan : pts.any (fun p => isNaN p.value) = false
  uniq : IdUnique ps
  erows : eps.map normPoint = E ++ [nt]
  enan : eps.any (fun p => isNaN p.value) = false
  euniq : IdUnique (E ++ [nt])
  ntype : nt.type = nodeTypeT
  etype : ∀ a ∈ E, a.type ≠ nodeTypeT

theorem edge_request {pts E : List Point} {nt : Point} (hsent : pts.map normPoint = E ++ [nt]) (hnt : nt.type = nodeTypeT)
    (hE : ∀ a ∈ E, a.type ≠ nodeTypeT) (hu : IdUnique (E ++ [nt])) : edgeBatch pts = E ∧ edgeType pts = nt.text := by
  constructor
  · rw [edgeBatch, hsent, collapse_of_idUnique hu, List.filter_append, List.filter_eq_self.mpr fun a ha => bne_iff_ne.mpr (hE a ha),
      List.filter_cons_of_neg (by rw [bne_iff_ne, hnt]; exact fun h => h rfl)]
    exact List.append_nil E
  · rw [edgeType, hsent, collapse_of_idUnique hu, List.filter_append,
      List.filter_eq_nil_iff.mpr fun a ha => by rw [beq_iff_eq]; exact hE a ha, List.filter_cons_of_pos (by exact beq_iff_eq.mpr hnt)]
    rfl

theorem write_unknown {st : St} {id parent : Bytes} {pts eps ps E : List Point} {nt : Point} (h : Sent pts eps ps E nt)
    (hf : Fresh st id) (hp1 : parent ≠ []) (hp2 : parent ≠ rootS) (hp3 : parent ≠ id) (ht : nt.text ≠ []) :
    ∃ st1 st', nodePoints st id pts = .ok st1 ∧ edgePoints st1 id parent eps = .ok st' ∧ Added st st' parent id nt.text ps E := by
  obtain ⟨hb, hty⟩ := edge_request h.erows h.ntype h.etype h.euniq
  have hfresh : ∀ l : List Point, IdUnique l → (mergeBatch [] l).1 = l := fun l hl =>
    (mergeBatch_of_fresh (db := []) (fun _ _ _ hq => nomatch hq) hl).trans (List.nil_append l)
  -- the node has no edge above it: writing its points moves no hash
  have hed : (nodeWrite st id ps).edges = st.edges := bump_of_no_parent _ _ _ _ fun e he => (hf.edges e he).2
  have hk : (parent, id) ∉ keysOf st.edges := fun h => by
    obtain ⟨e, he, _, hd⟩ := mem_keysOf.mp h
    exact (hf.edges e he).2 hd
  have hchk : (ancestors (2 ^ st.edges.length) st.edges parent).contains id = false := by
    rw [Bool.eq_false_iff]
    intro hc
    rcases (ancestors_sound (List.contains_iff_mem.mp hc)).eq_or_up with h | ⟨k, hk, hk1⟩
    · exact hp3 h.symm
    · obtain ⟨e, he, rfl⟩ := List.mem_map.mp hk
      exact (hf.edges e he).1 hk1
  have h1 : nodePoints st id pts = .ok (nodeWrite st id ps) := by
    have hw := nodePoints_ok_iff.mpr (Wrote.np (st := st) id pts h.nan)
    rwa [h.rows, collapse_of_idUnique h.uniq] at hw
  have h2 : edgePoints (nodeWrite st id ps) id parent eps = .ok (edgeInsert (nodeWrite st id ps) parent id nt.text E) := by
    have hw := edgePoints_ok_iff.mpr (Wrote.insert (st := nodeWrite st id ps) id parent eps (fun h => hp3 h.symm)
      (fun h => hf.root h.1) h.enan (by rwa [upOf_of_ne_nil hp1, hed]) (by rwa [hty]) (by rwa [upOf_of_ne_nil hp1, hed]))
    rwa [upOf_of_ne_nil hp1, hty, hb] at hw
  refine ⟨_, _, h1, h2, ?_, fun y => ?_, fun u d => ?_, if_neg hp2⟩
  · exact (Sync.shapes_edgeInsert ..).trans (by rw [Sync.shapes, hed])
  · rw [ptsOf_edgeInsert, ptsOf_nodeWrite, hf.pts, hfresh ps h.uniq]
  · rw [eptsOf_edgeInsert_of_new (nodeWrite st id ps) _ _ _ _ (hf.epts parent), eptsOf_nodeWrite, eptsOf_nodeWrite, hf.epts,
      hfresh E (List.pairwise_append.mp h.euniq).1]

/-- an edge of the store after the node was added: the new one, or an old one -/
theorem Added.edge_cases {st st' : St} {u d typ : Bytes} {ps E : List Point} (h : Added st st' u d typ ps E) {e : Edge}
    (he : e ∈ st'.edges) : shape e = (u, d, typ) ∨ ∃ e' ∈ st.edges, shape e' = shape e := by
  have hm : shape e ∈ st'.edges.map shape := List.mem_map_of_mem he
  rw [h.tree] at hm
  rcases List.mem_append.mp hm with hm | hm
  · exact .inr (List.mem_map.mp hm)
  · exact .inl (List.mem_singleton.mp hm)

theorem Fresh.step {st st' : St} {u d typ y : Bytes} {ps E : List Point} (hy : Fresh st y) (hd : y ≠ d) (hu : y ≠ u)
    (h : Added st st' u d typ ps E) : Fresh st' y := by
  refine ⟨fun e he => ?_, ?_, fun a => ?_, ?_⟩
  · rcases h.edge_cases he with hs | ⟨e', he', hs⟩
    · have hs := shape_eq hs
      exact ⟨fun h => hu (h.symm.trans hs.1), fun h => hd (h.symm.trans hs.2.1)⟩
    · rw [← (shape_eq hs).1, ← (shape_eq hs).2.1]
      exact hy.edges e' he'
  · rw [h.pts, if_neg hd]
    exact hy.pts
  · rw [h.epts, if_neg fun h => hd (Prod.mk.inj h).2]
    exact hy.epts a
  · rw [h.root]
    exact hy.root

def stamp (now : Int) (p : Point) : Point := if p.time = 0 then { p with time := now } else p

/-- what `SendNode` hands to `edgePoints`: the edge points given (`has`: they carry a tombstone point), else the mark
    "not deleted" after them, and the node type last -/
def sentEdge (l : List Point) (has : Bool) (typ : Bytes) (now : Int) : List Point :=
  l ++ (if has then [] else [{ type := tombstoneT, time := now }]) ++ [{ type := nodeTypeT, text := typ, time := now }]

theorem sendNode_eq (st : St) (n : NodeRec) (now : Int) :
    sendNode st n now =
      if n.id = [] then .err "id" else if n.parent = [] ∨ n.parent = noneS then .err "parent"
      else match nodePoints st n.id (n.pts.map (stamp now)) with
        | .ok st1 => edgePoints st1 n.id n.parent (sentEdge (n.epts.map (stamp now)) (hasTomb n.epts) n.typ now)
        | e => e := rfl

theorem sentEdge_norm (l : List Point) (has : Bool) (typ : Bytes) (now : Int) :
    (sentEdge l has typ now).map normPoint =
      l.map normPoint ++ (if has then [] else [{ type := tombstoneT, key := zeroKey, time := now }]) ++
        [{ type := nodeTypeT, key := zeroKey, text := typ, time := now }] := by
  rw [sentEdge, List.map_append, List.map_append]
  cases has <;> rfl

theorem sentEdge_no_nan {l : List Point} (h : l.any (fun p => isNaN p.value) = false) (has : Bool) (typ : Bytes) (now : Int) :
    (sentEdge l has typ now).any (fun p => isNaN p.value) = false := by
  have h0 : isNaN 0 = false := by decide
  rw [sentEdge, List.any_append, List.any_append, h]
  split <;> simp only [List.any_cons, List.any_nil, h0, Bool.or_false]

/-- stored edge rows carry the tombstone point (key "0"); suffix `E`: on stored edge rows, `X` (`tombX`): on their exported form -/
def hasTombE (l : List Point) : Bool := l.any (fun p => p.type == tombstoneT && p.key == zeroKey)

/-- edge rows, and after them the mark "not deleted" when they carry no tombstone point (`has = false`): what `SendNode`
    leaves as the rows of the new edge -/
def withMark (l : List Point) (has : Bool) (now : Int) : List Point :=
  l ++ (if has then [] else [{ type := tombstoneT, key := zeroKey, time := now }])

theorem hasTombE_of_hasTomb {l : List Point} (h : hasTomb l = false) : hasTombE l = false := by
  rw [hasTomb, List.any_eq_false] at h
  rw [hasTombE, List.any_eq_false]
  intro p hp hc
  rw [Bool.and_eq_true] at hc
  exact h p hp (by rw [hc.1, hc.2, Bool.or_true]; rfl)

theorem withMark_type {l : List Point} (h : ∀ p ∈ l, p.type ≠ nodeTypeT) (has : Bool) (now : Int) :
    ∀ a ∈ withMark l has now, a.type ≠ nodeTypeT := by
  intro a ha
  rcases List.mem_append.mp ha with ha | ha
  · exact h a ha
  · split at ha
    · cases ha
    · rw [List.mem_singleton.mp ha]
      show tombstoneT ≠ nodeTypeT
      decide

/-- `hm`: the mark is only added to rows that have no point of its identity -/
theorem withMark_unique {l : List Point} {has : Bool} (hu : IdUnique l) (ht : ∀ p ∈ l, p.type ≠ nodeTypeT)
    (hm : has = false → hasTombE l = false) (typ : Bytes) (now : Int) :
    IdUnique (withMark l has now ++ [{ type := nodeTypeT, key := zeroKey, text := typ, time := now }]) := by
  refine idUnique_append ?_ (List.find?_eq_none.mpr fun a ha hs => withMark_type ht has now a ha (sameId_iff.mp hs).1.symm)
  unfold withMark
  split
  · rwa [List.append_nil]
  · rename_i hh
    refine idUnique_append hu (List.find?_eq_none.mpr fun a ha hs => ?_)
    rw [hasTombE, List.any_eq_false] at hm
    exact hm (Bool.eq_false_iff.mpr hh) a ha ((sameId_symm ..).trans hs)

theorem sendNode_sent {st : St} {n : NodeRec} {ps E : List Point} {now : Int}
    (h : Sent (n.pts.map (stamp now)) (sentEdge (n.epts.map (stamp now)) (hasTomb n.epts) n.typ now) ps E
      { type := nodeTypeT, key := zeroKey, text := n.typ, time := now })
    (hf : Fresh st n.id) (hid : n.id ≠ [])
    (hp : n.parent ≠ [] ∧ n.parent ≠ noneS ∧ n.parent ≠ rootS ∧ n.parent ≠ n.id) (ht : n.typ ≠ []) :
    ∃ st', sendNode st n now = .ok st' ∧ Added st st' n.parent n.id n.typ ps E := by
  obtain ⟨st1, st', h1, h2, hadd⟩ := write_unknown h hf hp.1 hp.2.2.1 hp.2.2.2 ht
  refine ⟨st', ?_, hadd⟩
  rw [sendNode_eq, if_neg hid, if_neg (not_or.mpr ⟨hp.1, hp.2.1⟩), h1]
  exact h2

/-- `ps`, `E` as in `Sent` -/
theorem sendNode_core (st : St) (n : NodeRec) (ps E : List Point) (now : Int)
    (hrows : ((n.pts.map (stamp now)).map normPoint) = ps)
    (hnan : (n.pts.map (stamp now)).any (fun p => isNaN p.value) = false) (hpu : IdUnique ps)
    (hsent : ((n.epts.map (stamp now) ++ (if hasTomb n.epts then [] else [({ type := tombstoneT, time := now } : Point)]) ++
      [({ type := nodeTypeT, text := n.typ, time := now } : Point)]).map normPoint) =
      E ++ [({ type := nodeTypeT, key := zeroKey, text := n.typ, time := now } : Point)])
    (hsnt : ∀ a ∈ E, a.type ≠ nodeTypeT)
    (hsu : IdUnique (E ++ [({ type := nodeTypeT, key := zeroKey, text := n.typ, time := now } : Point)]))
    (hnan2 : (n.epts.map (stamp now) ++ (if hasTomb n.epts then [] else [({ type := tombstoneT, time := now } : Point)]) ++
      [({ type := nodeTypeT, text := n.typ, time := now } : Point)]).any (fun p => isNaN p.value) = false)
    (hf : Fresh st n.id) (hid : n.id ≠ [])
    (hp : n.parent ≠ [] ∧ n.parent ≠ noneS ∧ n.parent ≠ rootS ∧ n.parent ≠ n.id) (ht : n.typ ≠ []) :
    ∃ st', sendNode st n now = .ok st' ∧
      st'.edges.map shape = st.edges.map shape ++ [(n.parent, n.id, n.typ)] ∧
      (∀ y, ptsOf st' y = if y = n.id then ps else ptsOf st y) ∧
      (∀ u d, eptsOf st' u d = if (u, d) = (n.parent, n.id) then E else eptsOf st u d) ∧
      st'.root = st.root := by
  obtain ⟨st', hsend, hadd⟩ := sendNode_sent
    { rows := hrows, nan := hnan, uniq := hpu, erows := hsent, enan := hnan2, euniq := hsu, ntype := rfl, etype := hsnt } hf hid hp ht
  exact ⟨st', hsend, hadd.tree, hadd.pts, hadd.epts, hadd.root⟩

end Siot.Export
