import Siot.Lemmas.StoreReach
/-
The write requests of the store taken apart: an accepted request is one of three writes under the side conditions the checks
have established (`Wrote`); what each does to the rows (to the edges: Lemmas/StoreShape.lean); each keeps `Inv` (C03).
-/
namespace Siot.Store
open Siot

/-- the accepted branch of `nodePoints` -/
def nodeWrite (st : St) (id : Bytes) (batch : List Point) : St :=
  let mb := mergeBatch (ptsOf st id) batch
  { st with nodePts := st.nodePts.filter (fun r => r.1 != id) ++ mb.1.map (fun p => (id, p)),
            edges := bump (2 ^ st.edges.length) st.edges id mb.2 }

theorem nodePoints_eq (st : St) (id : Bytes) (pts : List Point) :
    nodePoints st id pts =
      if pts.any (fun p => isNaN p.value) then .err "nan" else .ok (nodeWrite st id (collapse (pts.map normPoint))) := rfl

/-- the parent an edge request means: none given is the root sentinel -/
def upOf (parent : Bytes) : Bytes := if parent.isEmpty then rootS else parent

theorem upOf_of_ne_nil {parent : Bytes} (h : parent ≠ []) : upOf parent = parent := by
  rw [upOf, if_neg (by simpa using h)]

/-- the points of an edge request that are written as edge points -/
def edgeBatch (pts : List Point) : List Point := (collapse (pts.map normPoint)).filter (fun p => p.type != nodeTypeT)

/-- the node type an edge request carries -/
def edgeType (pts : List Point) : Bytes :=
  (((collapse (pts.map normPoint)).filter (fun p => p.type == nodeTypeT)).getLast?.map (·.text)).getD []

/-- what an accepted request does, with what the checks before it have established -/
inductive Wrote (st : St) : WOp → St → Prop
  | np (id : Bytes) (pts : List Point) (hnan : pts.any (fun p => isNaN p.value) = false) :
      Wrote st (.np id pts) (nodeWrite st id (collapse (pts.map normPoint)))
  | write (node parent : Bytes) (pts : List Point) (hne : node ≠ parent)
      (hroot : ¬(node = st.root ∧ pts.any (fun p => p.type == tombstoneT && isPos p.value) = true))
      (hnan : pts.any (fun p => isNaN p.value) = false) (hk : (upOf parent, node) ∈ keysOf st.edges) :
      Wrote st (.ep node parent pts) (edgeWrite st (upOf parent) node (edgeBatch pts))
  | insert (node parent : Bytes) (pts : List Point) (hne : node ≠ parent)
      (hroot : ¬(node = st.root ∧ pts.any (fun p => p.type == tombstoneT && isPos p.value) = true))
      (hnan : pts.any (fun p => isNaN p.value) = false) (hk : (upOf parent, node) ∉ keysOf st.edges)
      (htyp : edgeType pts ≠ [])
      (hchk : (ancestors (2 ^ st.edges.length) st.edges (upOf parent)).contains node = false) :
      Wrote st (.ep node parent pts) (edgeInsert st (upOf parent) node (edgeType pts) (edgeBatch pts))

theorem nodePoints_ok_iff {st st' : St} {id : Bytes} {pts : List Point} :
    nodePoints st id pts = .ok st' ↔ Wrote st (.np id pts) st' := by
  rw [nodePoints_eq, ite_err_eq_ok, Bool.not_eq_true, Res.ok.injEq]
  exact ⟨fun ⟨h, e⟩ => e ▸ .np id pts h, fun h => by cases h with | np _ _ h => exact ⟨h, rfl⟩⟩

theorem edgePointsCore_ok_iff {st st' : St} {node u : Bytes} {pts : List Point} :
    edgePointsCore st node u pts = .ok st' ↔
      ((u, node) ∈ keysOf st.edges ∧ edgeWrite st u node (edgeBatch pts) = st') ∨
      ((u, node) ∉ keysOf st.edges ∧ edgeType pts ≠ [] ∧
        (ancestors (2 ^ st.edges.length) st.edges u).contains node = false ∧
        edgeInsert st u node (edgeType pts) (edgeBatch pts) = st') := by
  have hk := find_edge_iff st.edges u node
  unfold edgePointsCore
  cases hf : st.edges.find? (fun e => e.up == u && e.down == node) with
  | some e =>
    have hk := hk.mp (hf ▸ rfl)
    exact ⟨fun h => .inl ⟨hk, Res.ok.inj h⟩, fun h => h.elim (fun h => congrArg _ h.2) (fun h => absurd hk h.1)⟩
  | none =>
    have hk : (u, node) ∉ keysOf st.edges := fun h => nomatch hf ▸ hk.mpr h
    dsimp only
    rw [ite_err_eq_ok, ite_err_eq_ok, List.isEmpty_iff, Bool.not_eq_true, Res.ok.injEq]
    exact ⟨fun h => .inr ⟨hk, h⟩, fun h => h.elim (fun h => absurd h.1 hk) And.right⟩

theorem edgePoints_ok_iff {st st' : St} {node parent : Bytes} {pts : List Point} :
    edgePoints st node parent pts = .ok st' ↔ Wrote st (.ep node parent pts) st' := by
  rw [edgePoints, ite_err_eq_ok, ite_err_eq_ok, ite_err_eq_ok, Bool.not_eq_true, edgePointsCore_ok_iff]
  constructor
  · rintro ⟨hne, hroot, hnan, ⟨hk, rfl⟩ | ⟨hk, ht, hc, rfl⟩⟩
    · exact .write node parent pts hne hroot hnan hk
    · exact .insert node parent pts hne hroot hnan hk ht hc
  · intro h
    cases h with
    | write _ _ _ hne hroot hnan hk => exact ⟨hne, hroot, hnan, .inl ⟨hk, rfl⟩⟩
    | insert _ _ _ hne hroot hnan hk ht hc => exact ⟨hne, hroot, hnan, .inr ⟨hk, ht, hc, rfl⟩⟩

theorem step_cases (st : St) (op : WOp) : step st op = (st, false) ∨ ∃ st', step st op = (st', true) ∧ Wrote st op st' := by
  cases op with
  | np id pts =>
    rw [step]
    cases h : nodePoints st id pts with
    | ok st' => exact .inr ⟨st', rfl, nodePoints_ok_iff.mp h⟩
    | _ => exact .inl rfl
  | ep node parent pts =>
    rw [step]
    cases h : edgePoints st node parent pts with
    | ok st' => exact .inr ⟨st', rfl, edgePoints_ok_iff.mp h⟩
    | _ => exact .inl rfl

theorem ptsOf_nodeWrite (st : St) (id : Bytes) (batch : List Point) (n : Bytes) :
    ptsOf (nodeWrite st id batch) n = if n = id then (mergeBatch (ptsOf st id) batch).1 else ptsOf st n :=
  ptsOf_write ..

theorem eptsOf_nodeWrite (st : St) (id : Bytes) (batch : List Point) (u d : Bytes) :
    eptsOf (nodeWrite st id batch) u d = eptsOf st u d := rfl

theorem ptsOf_edgeWrite (st : St) (u d : Bytes) (batch : List Point) (n : Bytes) :
    ptsOf (edgeWrite st u d batch) n = ptsOf st n := rfl

theorem ptsOf_edgeInsert (st : St) (u d typ : Bytes) (batch : List Point) (n : Bytes) :
    ptsOf (edgeInsert st u d typ batch) n = ptsOf st n := rfl

theorem eptsOf_edgeWrite (st : St) (u d : Bytes) (batch : List Point) (u' d' : Bytes) :
    eptsOf (edgeWrite st u d batch) u' d' =
      if (u', d') = (u, d) then (mergeBatch (eptsOf st u d) batch).1 else eptsOf st u' d' :=
  eptsOf_write st (u, d) _ (u', d')

theorem eptsOf_edgeInsert (st : St) (u d typ : Bytes) (batch : List Point) (u' d' : Bytes) :
    eptsOf (edgeInsert st u d typ batch) u' d' =
      eptsOf st u' d' ++ if (u', d') = (u, d) then (mergeBatch [] batch).1 else [] := by
  rw [eptsOf, edgeInsert, List.filter_append, List.map_append, rows_new]
  rfl

/-- the equation of `eptsOf_edgeWrite`: a new edge had no rows -/
theorem eptsOf_edgeInsert_of_new (st : St) (u d typ : Bytes) (batch : List Point) (h : eptsOf st u d = []) (u' d' : Bytes) :
    eptsOf (edgeInsert st u d typ batch) u' d' =
      if (u', d') = (u, d) then (mergeBatch (eptsOf st u d) batch).1 else eptsOf st u' d' := by
  rw [eptsOf_edgeInsert, h]
  split
  · rename_i hk
    cases hk
    exact congrArg (· ++ _) h
  · exact List.append_nil _

theorem merged_rows {κ : Type} [DecidableEq κ] {rows rows' : κ → List Point} {k0 : κ} {batch : List Point}
    (hu : ∀ k, IdUnique (rows k)) (h : ∀ k, rows' k = if k = k0 then (mergeBatch (rows k0) batch).1 else rows k) (k : κ) :
    IdUnique (rows' k) ∧
      xs ((rows' k).map pcrc) = xs ((rows k).map pcrc) ^^^ ite0 (k0 = k) (mergeBatch (rows k0) batch).2 := by
  rw [h]
  by_cases hk : k = k0
  · rw [if_pos hk, ite0_pos hk.symm, hk]
    exact ⟨mergeBatch_idUnique (hu k0) batch, mergeBatch_xs (hu k0) batch⟩
  · rw [if_neg hk, ite0_neg (Ne.symm hk), Nat.xor_zero]
    exact ⟨hu k, rfl⟩

theorem Inv.nodeWrite {st : St} (hinv : Inv st) (id : Bytes) (batch : List Point) : Inv (nodeWrite st id batch) := by
  obtain ⟨r, hr, hb⟩ := hinv.ranked
  have hm := merged_rows hinv.npu (ptsOf_nodeWrite st id batch)
  refine Inv.of_push (es := st.edges) rfl rfl hinv.nodup hr hb hinv.epinv (fun n => (hm n).1) hinv.epu fun k hk => ?_
  -- the checksum of node `id` moved by δ, the edge rows are the old ones
  rw [defect_content (gOf st) (keysOf_bump ..) _ k (hn := (hm k.2).2)
      (ho := by rw [gOf_own, gOf_own, eptsOf_nodeWrite, Nat.xor_zero]),
    hinv.hash k hk, Nat.zero_xor, Nat.xor_zero]

theorem Inv.edgeWrite {st : St} (hinv : Inv st) {u d : Bytes} (hk0 : (u, d) ∈ keysOf st.edges) (batch : List Point) :
    Inv (edgeWrite st u d batch) := by
  obtain ⟨r, hr, hb⟩ := hinv.ranked
  have hkt := keysOf_toggleList st.edges (u, d) (mergeBatch (eptsOf st u d) batch).2
  have hlt : (toggleList st.edges (u, d) (mergeBatch (eptsOf st u d) batch).2).length = st.edges.length := toggleList_length ..
  have hm := merged_rows (rows := fun k : EK => eptsOf st k.1 k.2) hinv.epu fun k => eptsOf_edgeWrite st u d batch k.1 k.2
  refine Inv.of_push (es := toggleList st.edges (u, d) _) rfl hkt hinv.nodup hr (hlt ▸ hb) (fun row hrow => ?_) hinv.npu
    (fun k => (hm k).1) fun k hk => ?_
  · rcases List.mem_append.mp hrow with h | h
    · exact hinv.epinv row (List.mem_filter.mp h).1
    · obtain ⟨p, _, rfl⟩ := List.mem_map.mp h; exact hk0
  · -- the toggle of the edge's own hash cancels the change of its own checksum; what is left is δ on the edges into `u`
    generalize (mergeBatch (eptsOf st u d) batch).2 = δ at hm ⊢
    rw [hOf_toggleList δ hk0]
    calc defect (gOf (Store.edgeWrite st u d batch)) (toggle (hOf st.edges) (u, d) δ) k
        = defect (gOf st) (toggle (hOf st.edges) (u, d) δ) k ^^^ 0 ^^^ ite0 ((u, d) = k) δ :=
          defect_content (gOf st) ((keysOf_bump ..).trans hkt) _ k (ho := (hm k).2)
            (hn := by rw [gOf_nodeC, gOf_nodeC, ptsOf_edgeWrite, Nat.xor_zero])
      _ = 0 ^^^ ite0 (k = (u, d)) δ ^^^ ite0 (u = k.2) δ ^^^ 0 ^^^ ite0 ((u, d) = k) δ := by
          rw [defect_toggle _ hinv.nodup _ _ k hk0, hinv.hash k hk]
      _ = ite0 (u = k.2) δ := by
          rw [ite0_congr (eq_comm (a := k)), Nat.zero_xor, Nat.xor_zero, Nat.xor_comm (ite0 _ _), xcancel]

/-- with `∃`, so that a proof has the new edge and its hash as variables and not as the terms they are -/
theorem edgeInsert_edges (st : St) (u d typ : Bytes) (batch : List Point) :
    ∃ e0 : Edge, keyOf e0 = (u, d) ∧
      (edgeInsert st u d typ batch).edges = bump (2 ^ (st.edges ++ [e0]).length) (st.edges ++ [e0]) u e0.hash ∧
      e0.hash = (mergeBatch [] batch).2 ^^^ xorAll ((ptsOf st d).map pcrc) ^^^
        xorAll ((st.edges.filter (fun e => e.up == d)).map (·.hash)) :=
  ⟨⟨u, d, typ, _⟩, rfl, rfl, rfl⟩

theorem Inv.edgeInsert {st : St} (hinv : Inv st) {u d : Bytes} (hk0 : (u, d) ∉ keysOf st.edges)
    (hchk : (ancestors (2 ^ st.edges.length) st.edges u).contains d = false) (typ : Bytes) (batch : List Point) :
    Inv (edgeInsert st u d typ batch) := by
  obtain ⟨r, hr, hb⟩ := hinv.ranked
  obtain ⟨r', hr', hb'⟩ := ranked_insert st.edges r hr hb u d hchk
  have hud : u ≠ d := fun h => by
    rw [← h, List.contains_iff_mem.mpr (self_mem_ancestors ..)] at hchk; cases hchk
  obtain ⟨e0, hke, hed, hh0⟩ := edgeInsert_edges st u d typ batch
  have hk1 : keysOf (st.edges ++ [e0]) = keysOf st.edges ++ [(u, d)] := hke ▸ List.map_append
  have hnd1 : (keysOf st.edges ++ [(u, d)]).Nodup :=
    List.nodup_append.mpr ⟨hinv.nodup, List.pairwise_singleton .., fun a ha b hb => by
      rw [List.mem_singleton.mp hb]; exact fun h => hk0 (h ▸ ha)⟩
  have hk0' : keyOf e0 ∉ keysOf st.edges := by rw [hke]; exact hk0
  have hh : ∀ c ∈ keysOf st.edges, hOf (st.edges ++ [e0]) c = hOf st.edges c := fun c hc => by
    rw [hOf_append_new hk0', if_neg fun h : c = keyOf e0 => hk0' (h ▸ hc)]
  have hnew : hOf (st.edges ++ [e0]) (u, d) = e0.hash := by
    rw [hOf_append_new hk0', if_pos hke.symm]
  -- every row belongs to an edge (`epinv`), so the new edge had none
  have hempty : eptsOf st u d = [] := List.eq_nil_iff_forall_not_mem.mpr fun p hp => hk0 (hinv.epinv _ (mem_eptsOf.mp hp))
  have hm := merged_rows (rows := fun k : EK => eptsOf st k.1 k.2) hinv.epu fun k =>
    eptsOf_edgeInsert_of_new st u d typ batch hempty k.1 k.2
  -- the hash given to the new edge is the Merkle hash of the edge without rows, moved by the δ of its batch
  have hcalc : e0.hash = calcF (gOf st) (hOf st.edges) (u, d) ^^^ (mergeBatch (eptsOf st u d) batch).2 := by
    have hown : (gOf st).own (u, d) = 0 := by rw [gOf_own, hempty]; rfl
    rw [hh0, kids_hash_sum hinv.nodup, xorAll_eq_xs, Nat.xor_assoc, Nat.xor_comm (mergeBatch [] batch).2, calcF, hown,
      Nat.xor_zero, hempty]
    rfl
  have hg : (gOf (Store.edgeInsert st u d typ batch)).keys = (gOf st).keys ++ [(u, d)] :=
    (congrArg keysOf hed).trans ((keysOf_bump ..).trans hk1)
  refine Inv.of_push hed hk1 hnd1 hr' (by rw [List.length_append]; exact hb') (fun row hrow => ?_) hinv.npu
    (fun k => (hm k).1) fun k hk => ?_
  · rcases List.mem_append.mp hrow with h | h
    · exact List.mem_append_left _ (hinv.epinv row h)
    · obtain ⟨p, _, rfl⟩ := List.mem_map.mp h; exact List.mem_append_right _ (List.mem_singleton_self _)
  · rw [defect, calcF_snoc (gOf st) hg hh k rfl (hm k).2, hnew]
    rcases List.mem_append.mp hk with hk | hk
    · -- an old edge: its hash was right; the new hash enters its children sum if it ends in `u`
      rw [hh k hk, ite0_neg fun h : (u, d) = k => hk0 (h ▸ hk), Nat.xor_zero, ← Nat.xor_assoc]
      exact (congrArg (· ^^^ _) (hinv.hash k hk)).trans (Nat.zero_xor _)
    · -- the new edge: `hcalc`, and it is no child of its own node
      cases List.mem_singleton.mp hk
      rw [hnew, ite0_pos rfl, ite0_neg hud, Nat.xor_zero, ← hcalc]
      exact Nat.xor_self _

theorem Wrote.inv {st st' : St} {op : WOp} (h : Wrote st op st') (hinv : Inv st) : Inv st' := by
  cases h with
  | np id pts => exact hinv.nodeWrite id _
  | write _ _ pts _ _ _ hk => exact hinv.edgeWrite hk _
  | insert _ _ pts _ _ _ hk _ hchk => exact hinv.edgeInsert hk hchk _ _

theorem nodePoints_inv {st st' : St} {id : Bytes} {pts : List Point} (hinv : Inv st)
    (h : nodePoints st id pts = .ok st') : Inv st' :=
  (nodePoints_ok_iff.mp h).inv hinv

theorem Inv.step {st : St} (hinv : Inv st) (op : WOp) : Inv (step st op).1 := by
  rcases step_cases st op with h | ⟨st', h, hw⟩ <;> rw [h]
  · exact hinv
  · exact hw.inv hinv

theorem run_induct {P : St → Prop} (hstep : ∀ st op, P st → P (step st op).1) (ops : List WOp) {st : St} (h : P st) :
    P (run st ops) := by
  induction ops generalizing st with
  | nil => exact h
  | cons op ops ih => exact ih (hstep st op h)

theorem Inv.run {st : St} (hinv : Inv st) (ops : List WOp) : Inv (run st ops) :=
  run_induct (fun _ op h => h.step op) ops hinv

theorem Inv.empty : Inv {} :=
  ⟨List.Pairwise.nil, ⟨fun _ => 0, nofun, fun _ => Nat.one_pos⟩, nofun, fun _ => List.Pairwise.nil, fun _ => List.Pairwise.nil, nofun⟩

end Siot.Store
