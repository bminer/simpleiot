import Siot.Lemmas.StoreShape
import Siot.Model.Export
/-
The file `exportNodesHelper` writes is the pre-order list of its own parent-pointer tree: on a store whose non-deleted
edges form a forest (no node has two non-deleted parent edges — no mirrors — and there is no cycle), traversing the file
by its parent pointers (`rebuild`) gives the file back, also after `ImportNodes` has given the top node another parent.
Last, the children a node has in the store after an import (`kids_shape`), for the re-export.
-/
namespace Siot.Export
open Siot Siot.Store

def ids (S : Flat) : List Bytes := S.map (fun x => x.2.id)

theorem mem_ids {S : Flat} {x : Nat × NodeRec} (h : x ∈ S) : x.2.id ∈ ids S := List.mem_map_of_mem h

theorem ids_cons (x : Nat × NodeRec) (A : Flat) : ids (x :: A) = x.2.id :: ids A := rfl

theorem ids_append (A B : Flat) : ids (A ++ B) = ids A ++ ids B := List.map_append

theorem ids_flatMap {α} (l : List α) (g : α → Flat) : ids (l.flatMap g) = l.flatMap (fun a => ids (g a)) := List.map_flatMap

theorem ids_flatMap_mem {α} {l : List α} {g : α → Flat} {c : α} (hc : c ∈ l) {y : Bytes} (hy : y ∈ ids (g c)) :
    y ∈ ids (l.flatMap g) := by
  rw [ids_flatMap]
  exact List.mem_flatMap.mpr ⟨c, hc, hy⟩

theorem rebuild_succ (F : Flat) (k d : Nat) (n : NodeRec) :
    rebuild F (k + 1) d n = (d, n) :: (F.filter (fun x => x.2.parent == n.id)).flatMap (fun x => rebuild F k (d + 1) x.2) := rfl

/-- the traversal does not notice a change of the top node's parent and points, as long as neither the old nor the new
    parent is a node of the file (ImportNodes re-parents the top node and marks its description) -/
theorem rebuild_retop_sub {d0 : Nat} {n n' : NodeRec} {rest : Flat}
    (hp : n.parent ∉ ids ((d0, n) :: rest)) (hp' : n'.parent ∉ ids ((d0, n) :: rest)) :
    ∀ (k d : Nat) (m : NodeRec), m.id ∈ ids ((d0, n) :: rest) →
      rebuild ((d0, n') :: rest) k d m = rebuild ((d0, n) :: rest) k d m := by
  intro k
  induction k with
  | zero => intros; rfl
  | succ k ih =>
    intro d m hm
    rw [rebuild_succ, rebuild_succ, List.filter_cons_of_neg (by rw [beq_iff_eq]; exact fun h => hp' (h ▸ hm)),
      List.filter_cons_of_neg (by rw [beq_iff_eq]; exact fun h => hp (h ▸ hm))]
    exact congrArg _ (flatMap_congr_mem fun x hx => ih (d + 1) x.2 (List.mem_cons_of_mem _ (mem_ids (List.mem_filter.mp hx).1)))

theorem rebuild_retop {d0 : Nat} {n n' : NodeRec} {rest : Flat} (hid : n'.id = n.id)
    (hp : n.parent ∉ ids ((d0, n) :: rest)) (hp' : n'.parent ∉ ids ((d0, n) :: rest)) {k : Nat}
    (h : rebuild ((d0, n) :: rest) k d0 n = (d0, n) :: rest) :
    rebuild ((d0, n') :: rest) k d0 n' = (d0, n') :: rest := by
  cases k with
  | zero => cases h
  | succ k =>
    have hn : n.id ∈ ids ((d0, n) :: rest) := List.mem_cons_self ..
    rw [rebuild_succ, List.filter_cons_of_neg (by rw [beq_iff_eq]; exact fun e => hp (e ▸ hn))] at h
    rw [rebuild_succ, hid, List.filter_cons_of_neg (by rw [beq_iff_eq]; exact fun e => hp' (e ▸ hn)),
      flatMap_congr_mem fun x hx =>
        rebuild_retop_sub hp hp' k (d0 + 1) x.2 (List.mem_cons_of_mem _ (mem_ids (List.mem_filter.mp hx).1)),
      List.tail_eq_of_cons_eq h]

/-- the non-deleted edges form a forest: acyclic (a rank grows along every edge) and no node below two edges -/
structure Forest (L : List Edge) : Prop where
  rank : ∃ r : Bytes → Nat, ∀ c ∈ L, r c.up < r c.down
  single : L.Pairwise (fun a b => a.down ≠ b.down)

/-- `y` is `a` or below it -/
inductive Desc (L : List Edge) (a : Bytes) : Bytes → Prop
  | refl : Desc L a a
  | step (c : Edge) : c ∈ L → Desc L a c.up → Desc L a c.down

theorem Desc.trans {L : List Edge} {a b y : Bytes} (h1 : Desc L a b) (h2 : Desc L b y) : Desc L a y := by
  induction h2 with
  | refl => exact h1
  | step c hc _ ih => exact .step c hc ih

/-- the forest facts are proved once, on `Store.Reach` -/
theorem Desc.reach {L : List Edge} {a y : Bytes} (h : Desc L a y) : Reach (keysOf L) y a := by
  induction h with
  | refl => exact .refl _
  | step c hc _ ih => exact .step _ _ (keyOf c) (List.mem_map_of_mem hc) rfl ih

theorem Desc.inv {L : List Edge} {a y : Bytes} (h : Desc L a y) : y = a ∨ ∃ c ∈ L, c.down = y ∧ Desc L a c.up := by
  cases h with
  | refl => exact .inl rfl
  | step c hc dc => exact .inr ⟨c, hc, rfl, dc⟩

theorem Desc.rank_le {L : List Edge} {r : Bytes → Nat} (hr : ∀ c ∈ L, r c.up < r c.down) {a y : Bytes} (h : Desc L a y) : r a ≤ r y :=
  h.reach.rank_le hr

theorem Desc.ne_up {L : List Edge} (hf : Forest L) {c : Edge} (hc : c ∈ L) {y : Bytes} (h : Desc L c.down y) : y ≠ c.up := by
  rintro rfl
  exact h.reach.not_up hc hf.rank

theorem Desc.siblings {L : List Edge} (hf : Forest L) (c1 c2 : Edge) (h1 : c1 ∈ L) (h2 : c2 ∈ L) (hup : c1.up = c2.up) (hne : c1 ≠ c2)
    {y : Bytes} (d1 : Desc L c1.down y) : Desc L c2.down y → False :=
  fun d2 => d1.reach.siblings d2.reach hf.rank hf.single h1 h2 hup hne

variable (isDel : Nat → Bool) (st : St)

/-- what `exportFrom` puts after the entry of node `m`: the subtrees of its non-deleted children, in edge order -/
def below (k d : Nat) (m : Bytes) : Flat :=
  ((Auth.live isDel st).filter (fun c => c.up == m)).flatMap (exportFrom isDel st k d)

variable {isDel st}

theorem exportFrom_succ (k d : Nat) (e : Edge) :
    exportFrom isDel st (k + 1) d e = (d, recOf st e) :: below isDel st k (d + 1) e.down := rfl

theorem recOf_id (st : St) (e : Edge) : (recOf st e).id = e.down := rfl

theorem recOf_parent (st : St) (e : Edge) : (recOf st e).parent = e.up := rfl

theorem mem_below {k d : Nat} {m : Bytes} {x : Nat × NodeRec} :
    x ∈ below isDel st k d m ↔ ∃ c ∈ Auth.live isDel st, c.up = m ∧ x ∈ exportFrom isDel st k d c := by
  simp only [below, List.mem_flatMap, List.mem_filter, beq_iff_eq, and_assoc]

theorem export_desc : ∀ (k d : Nat) (e : Edge), ∀ x ∈ exportFrom isDel st k d e,
    Desc (Auth.live isDel st) e.down x.2.id ∧ (x.2.parent = e.up ∨ Desc (Auth.live isDel st) e.down x.2.parent) := by
  intro k
  induction k with
  | zero => intro d e x hx; cases hx
  | succ k ih =>
    intro d e x hx
    rw [exportFrom_succ, List.mem_cons, mem_below] at hx
    rcases hx with rfl | ⟨c, hc, hcu, hx⟩
    · exact ⟨.refl, .inl rfl⟩
    · have h1 : Desc (Auth.live isDel st) e.down c.down := .step c hc (hcu ▸ .refl)
      obtain ⟨hid, hpar⟩ := ih (d + 1) c x hx
      refine ⟨h1.trans hid, .inr (hpar.elim (fun h => ?_) h1.trans)⟩
      rw [h, hcu]
      exact .refl

theorem below_parent {k d : Nat} {m : Bytes} {x : Nat × NodeRec} (hx : x ∈ below isDel st k d m) :
    Desc (Auth.live isDel st) m x.2.parent := by
  obtain ⟨c, hc, rfl, hxc⟩ := mem_below.mp hx
  exact (export_desc k d c x hxc).2.elim (· ▸ .refl) (Desc.trans (.step c hc .refl))

theorem mem_ids_below {k d : Nat} {m y : Bytes} {c : Edge} (hc : c ∈ Auth.live isDel st) (hcu : c.up = m)
    (hy : y ∈ ids (exportFrom isDel st k d c)) : y ∈ ids (below isDel st k d m) :=
  ids_flatMap_mem (l := (Auth.live isDel st).filter fun a : Edge => a.up == m) (List.mem_filter.mpr ⟨hc, beq_iff_eq.mpr hcu⟩) hy

/-- every entry of an exported subtree is its top entry, or names as parent a node of the same subtree -/
theorem export_parent_inside : ∀ (k d : Nat) (e : Edge), ∀ x ∈ exportFrom isDel st k d e,
    x = (d, recOf st e) ∨ x.2.parent ∈ ids (exportFrom isDel st k d e) := by
  intro k
  induction k with
  | zero => intro d e x hx; cases hx
  | succ k ih =>
    intro d e x hx
    rw [exportFrom_succ, List.mem_cons, mem_below] at hx
    rcases hx with rfl | ⟨c, hc, hcu, hxc⟩
    · exact .inl rfl
    · refine .inr ?_
      rw [exportFrom_succ, ids_cons]
      rcases ih (d + 1) c x hxc with rfl | h
      · exact List.mem_cons.mpr (.inl hcu)
      · exact List.mem_cons_of_mem _ (mem_ids_below hc hcu h)

/-- an entry of the subtrees of a list of children of `p` names `p` or a node of those subtrees as parent -/
theorem kids_parent_inside {k d : Nat} {p : Bytes} {l : List Edge} (hl : ∀ c ∈ l, c.up = p) {x : Nat × NodeRec}
    (hx : x ∈ l.flatMap (fun c => exportFrom isDel st k d c)) :
    x.2.parent = p ∨ x.2.parent ∈ ids (l.flatMap (fun c => exportFrom isDel st k d c)) := by
  obtain ⟨c, hc, hxc⟩ := List.mem_flatMap.mp hx
  rcases export_parent_inside k d c x hxc with rfl | h
  · exact .inl (hl c hc)
  · exact .inr (ids_flatMap_mem hc h)

variable (hf : Forest (Auth.live isDel st))
include hf

/-- of the subtree of a child `c` of `m` only the head names `m` as parent -/
theorem filter_up_eq_head (k d : Nat) {c : Edge} (hc : c ∈ Auth.live isDel st) {m : Bytes} (hcu : c.up = m) :
    (exportFrom isDel st (k + 1) d c).filter (fun x => x.2.parent == m) = [(d, recOf st c)] := by
  subst hcu
  rw [exportFrom_succ, List.filter_cons_of_pos (by exact beq_self_eq_true c.up)]
  congr 1
  exact List.filter_eq_nil_iff.mpr fun x hx h => (below_parent hx).ne_up hf hc (beq_iff_eq.mp h)

/-- below `m`, the entries that name a node of child `c`'s subtree as parent lie in that subtree (siblings' subtrees are disjoint),
    past its head -/
theorem filter_inside_child (k d : Nat) {c : Edge} (hc : c ∈ Auth.live isDel st) {m : Bytes} (hcu : c.up = m) {y : Bytes}
    (hy : y ∈ ids (exportFrom isDel st (k + 1) d c)) :
    (below isDel st (k + 1) d m).filter (fun x => x.2.parent == y) =
      (below isDel st k (d + 1) c.down).filter (fun x => x.2.parent == y) := by
  subst hcu
  obtain ⟨x, hx, rfl⟩ := List.mem_map.mp hy
  have hd := (export_desc _ _ _ x hx).1
  have hkids : ((Auth.live isDel st).filter (fun a => a.up == c.up)).Nodup :=
    List.Nodup.sublist List.filter_sublist (hf.single.imp fun h e => h (congrArg Edge.down e))
  rw [below, List.filter_flatMap, flatMap_single hkids (List.mem_filter.mpr ⟨hc, beq_self_eq_true _⟩), exportFrom_succ,
    List.filter_cons_of_neg (by rw [beq_iff_eq]; exact (hd.ne_up hf hc).symm)]
  -- a sibling `a` of `c` contributes nothing
  intro a ha hne
  obtain ⟨ha, hau⟩ := List.mem_filter.mp ha
  rw [List.filter_eq_nil_iff]
  intro z hz h
  rcases (export_desc _ _ _ z hz).2 with h' | h'
  · -- `z` is the head of the sibling's subtree: its parent is `c.up`, not in `c`'s subtree
    exact hd.ne_up hf hc ((beq_iff_eq.mp h).symm.trans (h'.trans (beq_iff_eq.mp hau)))
  · -- `z` lies deeper in the sibling's subtree: subtrees of siblings are disjoint
    exact Desc.siblings hf a c ha hc (beq_iff_eq.mp hau) hne (beq_iff_eq.mp h ▸ h') hd

/-- `F`: any file in which the entries naming a node of the subtree below `n.id` as parent are those of the subtree; it stays
    fixed while the induction descends -/
theorem rebuild_below (F : Flat) : ∀ (k d : Nat) (n : NodeRec),
    (∀ y ∈ n.id :: ids (below isDel st k (d + 1) n.id),
      F.filter (fun x => x.2.parent == y) = (below isDel st k (d + 1) n.id).filter (fun x => x.2.parent == y)) →
    rebuild F (k + 1) d n = (d, n) :: below isDel st k (d + 1) n.id := by
  intro k
  induction k with
  | zero =>
    intro d n _
    rw [rebuild_succ, below]
    exact congrArg _ ((List.flatMap_eq_nil_iff.mpr fun _ _ => rfl).trans (List.flatMap_eq_nil_iff.mpr fun _ _ => rfl).symm)
  | succ k ih =>
    intro d n h
    -- invariant: `F` and the subtree give the same answer to "who names `y` as parent" for every `y` of the subtree;
    -- `rebuild` asks nothing else. The entries naming `n` are the heads of its children's subtrees
    rw [rebuild_succ, h n.id (List.mem_cons_self ..), below, List.filter_flatMap, List.flatMap_assoc]
    refine congrArg _ (flatMap_congr_mem fun c hc => ?_)
    obtain ⟨hc, hcu⟩ := List.mem_filter.mp hc
    have hcu : c.up = n.id := beq_iff_eq.mp hcu
    rw [filter_up_eq_head hf k (d + 1) hc hcu, List.flatMap_singleton, exportFrom_succ]
    refine ih (d + 1) (recOf st c) fun y hy => ?_
    -- the hypothesis goes down to the child: what names a node of its subtree lies in its subtree
    have hy : y ∈ ids (exportFrom isDel st (k + 1) (d + 1) c) := hy
    rw [h y (List.mem_cons_of_mem _ (mem_ids_below hc hcu hy)), filter_inside_child hf k (d + 1) hc hcu hy]
    rfl

theorem rebuild_self (k d : Nat) (n : NodeRec) (hp : n.parent ∉ n.id :: ids (below isDel st k (d + 1) n.id)) :
    rebuild ((d, n) :: below isDel st k (d + 1) n.id) (k + 1) d n = (d, n) :: below isDel st k (d + 1) n.id :=
  rebuild_below hf _ k d n fun y hy => List.filter_cons_of_neg (by rw [beq_iff_eq]; exact fun h => hp (h ▸ hy))

theorem export_up_outside (k d : Nat) (e : Edge) (he : e ∈ Auth.live isDel st) : e.up ∉ ids (exportFrom isDel st k d e) := by
  intro hin
  obtain ⟨x, hx, hxe⟩ := List.mem_map.mp hin
  exact (export_desc k d e x hx).1.ne_up hf he hxe

/-- on a forest, the exported file names every node once -/
theorem export_nodup : ∀ (k d : Nat) (e : Edge), e ∈ Auth.live isDel st → (ids (exportFrom isDel st k d e)).Nodup := by
  intro k
  induction k with
  | zero => intro d e _; exact .nil
  | succ k ih =>
    intro d e he
    rw [exportFrom_succ, ids_cons, List.nodup_cons, below, ids_flatMap]
    refine ⟨fun hin => ?_, List.pairwise_flatMap.mpr ⟨fun c hc => ih (d + 1) c (List.mem_filter.mp hc).1, ?_⟩⟩
    · -- the top node is above everything in the subtrees
      obtain ⟨c, hc, hy⟩ := List.mem_flatMap.mp hin
      obtain ⟨hc, hcu⟩ := List.mem_filter.mp hc
      obtain ⟨x, hx, hxe⟩ := List.mem_map.mp hy
      exact (export_desc _ _ c x hx).1.ne_up hf hc (hxe.trans ((recOf_id st e).trans (beq_iff_eq.mp hcu).symm))
    · -- different children: disjoint subtrees
      refine (hf.single.sublist List.filter_sublist).imp_of_mem fun {a b} ha hb hab y hya _ hyb hxy => ?_
      subst hxy
      obtain ⟨ha, hau⟩ := List.mem_filter.mp ha
      obtain ⟨hb, hbu⟩ := List.mem_filter.mp hb
      obtain ⟨x1, hx1, rfl⟩ := List.mem_map.mp hya
      obtain ⟨y1, hy1, hye⟩ := List.mem_map.mp hyb
      exact Desc.siblings hf a b ha hb ((beq_iff_eq.mp hau).trans (beq_iff_eq.mp hbu).symm) (fun h => hab (h ▸ rfl))
        (export_desc _ _ a x1 hx1).1 (hye ▸ (export_desc _ _ b y1 hy1).1)

omit hf

def shapeOf (x : Nat × NodeRec) : Bytes × Bytes × Bytes := (x.2.parent, x.2.id, x.2.typ)

theorem kids_shape {st st' : St} {f : Flat} (h : st'.edges.map shape = st.edges.map shape ++ f.map shapeOf) (p : Bytes) :
    (st'.edges.filter (fun e => e.up == p)).map shape =
      (st.edges.filter (fun e => e.up == p)).map shape ++ (f.filter (fun x => x.2.parent == p)).map shapeOf := by
  have e1 : ∀ es : List Edge, (es.filter (fun e => e.up == p)).map shape = (es.map shape).filter (fun s => s.1 == p) :=
    fun _ => (List.filter_map (f := shape) (p := fun s => s.1 == p)).symm
  have e2 : (f.filter (fun x => x.2.parent == p)).map shapeOf = (f.map shapeOf).filter (fun s => s.1 == p) :=
    (List.filter_map (f := shapeOf) (p := fun s => s.1 == p)).symm
  rw [e1, e1, e2, h, List.filter_append]

/-- below a node the store did not know before the import: the entries naming it, nothing else -/
theorem kids_shape_new {st st' : St} {f : Flat} (h : st'.edges.map shape = st.edges.map shape ++ f.map shapeOf) {p : Bytes}
    (hfresh : ∀ e ∈ st.edges, e.up ≠ p) :
    (st'.edges.filter (fun e => e.up == p)).map shape = (f.filter (fun x => x.2.parent == p)).map shapeOf := by
  rw [kids_shape h p, List.filter_eq_nil_iff.mpr fun e he => by rw [beq_iff_eq]; exact hfresh e he]
  rfl

/-- where no child is deleted, the children `exportFrom` walks are all the children -/
theorem live_filter_up {p : Bytes} (h : ∀ c ∈ st.edges, c.up = p → isDel (edgeTomb st c) = false) :
    (Auth.live isDel st).filter (fun c => c.up == p) = st.edges.filter (fun c => c.up == p) := by
  rw [Auth.live, List.filter_filter]
  refine List.filter_congr fun c hc => ?_
  cases hcu : c.up == p with
  | false => rfl
  | true => rw [h c hc (beq_iff_eq.mp hcu)]; rfl

end Siot.Export
