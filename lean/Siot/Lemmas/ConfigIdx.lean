import Siot.Lemmas.Itoa
import Siot.Lemmas.ConfigMerge
/-
Slices and arrays. `encIdx` and `diffIndexed` emit one live point per element of `changed` (encoding is the diff against
the empty slice) and tombstones for a cut tail, highest index first; the indexed loop of `SetValue` writes the former in
place, zeroes the latter, and the slice is trimmed back.
-/
namespace Siot.Config
open Siot

variable {N : Num} {pt : Bytes} {k : SKind}

/-- The loops below need of an index only that `Atoi` reads its key back; in the supported universe it is at most
    `maxStructureSize`. -/
theorem fits_int64 {n : Nat} (h : n ≤ maxStructureSize) : n ≤ 9223372036854775807 := Nat.le_trans h (by decide)

theorem keyIdx_itoa (p : Point) (n : Nat) (hn : n ≤ 9223372036854775807) (h : p.key = itoa n) : keyIdx p = some (n : Int) := by
  unfold keyIdx
  rw [h, itoa_nonempty]
  exact atoi_itoa n hn

def idxPt (N : Num) (pt : Bytes) (k : SKind) (iv : Nat × SVal) : Point := pointOf N pt k (itoa iv.1) iv.2

/-- the (index, element) pairs of `as`, counted from `i`, that differ from the element of `bs` at their place -/
def changed (N : Num) (k : SKind) : Nat → List SVal → List SVal → List (Nat × SVal)
  | _, _, [] => []
  | i, [], a :: as => (i, a) :: changed N k (i + 1) [] as
  | i, b :: bs, a :: as => if !sEq N k a b then (i, a) :: changed N k (i + 1) bs as else changed N k (i + 1) bs as

/-- `as` with every element that Go calls equal to the one of `bs` at its place replaced by that one -/
def mergeL (N : Num) (k : SKind) : List SVal → List SVal → List SVal
  | [], as => as
  | _ :: _, [] => []
  | b :: bs, a :: as => (if !sEq N k a b then a else b) :: mergeL N k bs as

theorem length_mergeL (bs as : List SVal) : (mergeL N k bs as).length = as.length := by
  fun_induction mergeL N k bs as <;> simp [*]

/-- `changed` is what `diffIndexed` computes with `range`, `zip` and `filter`. The predicate is a parameter `c` with its
    equation `hc` because the `match` inside `diffIndexed` is a constant of its own: `rfl` identifies it with the one written
    here (every use passes `fun _ _ => rfl`), rewriting does not. -/
theorem filter_changed (bs : List SVal) (c : Nat × SVal → Bool)
    (hc : ∀ i a, c (i, a) = match bs[i]? with | some b => !sEq N k a b | none => true) (as : List SVal) (i : Nat) :
    (List.zip (List.range' i as.length) as).filter c = changed N k i (bs.drop i) as := by
  induction as generalizing i with
  | nil => simp [changed]
  | cons a as ih =>
    rw [List.length_cons, List.range'_succ, List.zip_cons_cons, List.filter_cons, ih, hc]
    cases h : bs[i]? with
    | none =>
      have := List.getElem?_eq_none_iff.mp h
      rw [List.drop_eq_nil_of_le this, List.drop_eq_nil_of_le (Nat.le_succ_of_le this)]; rfl
    | some b =>
      obtain ⟨hi, rfl⟩ := List.getElem?_eq_some_iff.mp h
      rw [List.drop_eq_getElem_cons hi]; rfl

theorem changed_eq_filter (bs as : List SVal) : changed N k 0 bs as =
    (List.zip (List.range' 0 as.length) as).filter fun iv => match bs[iv.1]? with | some b => !sEq N k iv.2 b | none => true :=
  (filter_changed bs _ (fun _ _ => rfl) as 0).symm

theorem mem_changed {iv : Nat × SVal} {bs as : List SVal} (h : iv ∈ changed N k 0 bs as) : iv.2 ∈ as ∧ iv.1 < as.length := by
  rw [changed_eq_filter] at h
  have := List.of_mem_zip (List.mem_filter.mp h).1
  exact ⟨this.2, by simpa using (List.mem_range'_1.mp this.1).2⟩

theorem mem_changed_of_ge (bs as : List SVal) (n : Nat) (hb : bs.length ≤ n) (ha : n < as.length) :
    (n, as[n]) ∈ changed N k 0 bs as := by
  rw [changed_eq_filter, List.mem_filter]
  refine ⟨?_, by simp [List.getElem?_eq_none hb]⟩
  have hn : n < (List.zip (List.range' 0 as.length) as).length := by simpa using ha
  simpa using List.getElem_mem hn

/-- the tombstones of a cut tail of `c` elements from index `n`, highest index first -/
def deadPts (pt : Bytes) (n c : Nat) : List Point := tombPts pt ((List.range' n c).reverse.map itoa)

/-- the points of `diffIndexed bs as` -/
def idxPts (N : Num) (pt : Bytes) (k : SKind) (bs as : List SVal) : List Point :=
  (changed N k 0 bs as).map (idxPt N pt k) ++ deadPts pt as.length (bs.length - as.length)

theorem encIdx_ok (vs : List SVal) (i : Nat) (h : ∀ v ∈ vs, SOk k v) :
    encIdx N pt k i vs = .ok ((changed N k i [] vs).map (idxPt N pt k)) := by
  induction vs generalizing i with
  | nil => rfl
  | cons v vs ih =>
    obtain ⟨h1, h⟩ := List.forall_mem_cons.mp h
    simp only [encIdx, keyed_ok (itoa i) v h1, ih (i + 1) h]
    rfl

/-- encoding a slice is its diff against the empty slice -/
theorem encodeField_slice (vs : List SVal) (hl : vs.length ≤ maxStructureSize) (h : ∀ v ∈ vs, SOk k v) :
    encodeField N pt (.slice k) (.slice vs) = .ok (idxPts N pt k [] vs) := by
  unfold encodeField
  dsimp only
  rw [if_neg (Nat.not_lt.mpr hl), encIdx_ok vs 0 h]
  simp [idxPts, deadPts, tombPts]

theorem encodeField_array (n : Nat) (vs : List SVal) (hl : vs.length ≤ maxStructureSize) (h : ∀ v ∈ vs, SOk k v) :
    encodeField N pt (.array n k) (.array vs) = .ok (idxPts N pt k [] vs) :=
  encodeField_slice vs hl h

theorem filter_ge_range (n m : Nat) : (List.range m).filter (fun i => decide (i ≥ n)) = List.range' n (m - n) := by
  induction m with
  | zero => simp
  | succ m ih =>
    rw [List.range_succ, List.filter_append, ih, List.filter_cons, List.filter_nil]
    by_cases h : m ≥ n
    · rw [Nat.succ_sub h, List.range'_concat, decide_eq_true h, Nat.one_mul, Nat.add_sub_cancel' h]; rfl
    · rw [decide_eq_false h, Nat.sub_eq_zero_of_le (Nat.le_of_not_ge h), Nat.sub_eq_zero_of_le (Nat.lt_of_not_ge h)]; rfl

theorem diffIndexed_ok (bs as : List SVal)
    (hla : as.length ≤ maxStructureSize) (hok : ∀ v ∈ as, SOk k v) : diffIndexed N pt k bs as = .ok (idxPts N pt k bs as) := by
  unfold diffIndexed
  dsimp only
  rw [if_neg (Nat.not_lt.mpr hla), List.range_eq_range',
    filter_changed bs _ (fun _ _ => rfl), filter_ge_range,
    mapM'_ok _ (idxPt N pt k) _ fun iv hiv => keyed_ok _ _ (hok _ (mem_changed hiv).1)]
  dsimp only
  -- the keys are decimal numbers, hence not empty: `addNorm` leaves the points alone
  have hkey (iv : Nat × SVal) : addNorm (idxPt N pt k iv) = idxPt N pt k iv :=
    addNorm_eq_self _ (List.isEmpty_eq_false_iff.mp (itoa_nonempty iv.1))
  rw [List.map_map, List.map_congr_left (f := addNorm ∘ idxPt N pt k) fun iv _ => hkey iv, idxPts, deadPts, tombPts,
    List.map_map]
  rfl

/-! ### the indexed loop, one point at a time
`setIndexed` asks three things of a point: is it a tombstone beyond the end (then it is skipped), is its index out of range (the
panic), and is it a tombstone (then `del` grows and the element is zeroed; else the element is set). -/
theorem setIndexed_cons_live {p : Point} {ps : List Point} {vs : List SVal} {del : List Int} {i : Nat} {v : SVal}
    (hk : indexOf p.key = (i : Int)) (ht : tombOdd p.tomb = false) (hi : i < vs.length) (hs : setScalar N k p = .ok v) :
    setIndexed N k (p :: ps) vs del = setIndexed N k ps (vs.set i v) del := by
  rw [setIndexed]
  simp only [hk, ht, hs]
  -- not a tombstone beyond the end; the index is in range; `del` does not grow
  rw [if_neg (fun h => nomatch h.1), if_neg (by omega), if_neg Bool.false_ne_true, Int.toNat_natCast]

theorem setIndexed_cons_dead {p : Point} {ps : List Point} {vs : List SVal} {del : List Int} {i : Nat}
    (hk : indexOf p.key = (i : Int)) (ht : tombOdd p.tomb = true) (hi : i < vs.length) :
    setIndexed N k (p :: ps) vs del = setIndexed N k ps (vs.set i (zeroS k)) (del ++ [(i : Int)]) := by
  rw [setIndexed]
  simp only [hk, ht, setScalar]
  -- a tombstone, but not beyond the end; the index is in range
  rw [if_neg (by omega), if_neg (by omega)]
  simp only [if_true, Int.toNat_natCast]

theorem setIndexed_append (N : Num) (k : SKind) (l1 l2 : List Point) (vs : List SVal) (del : List Int) (vs' : List SVal)
    (del' : List Int) (h : setIndexed N k l1 vs del = (vs', del', .ok)) :
    setIndexed N k (l1 ++ l2) vs del = setIndexed N k l2 vs' del' := by
  fun_induction setIndexed N k l1 vs del
  case case1 =>
    cases h
    rfl
  case case2 p ps vs del0 index dead del hskip ih =>
    rw [List.cons_append, setIndexed]
    exact (if_pos hskip).trans (ih h)
  case case4 p ps vs del0 index dead del hskip hout v hs ih =>
    rw [List.cons_append, setIndexed, if_neg hskip, if_neg hout, hs]
    exact ih h
  -- the three branches that stop with a panic or an error: `h` says the run ended `ok`
  all_goals
    injection h with _ h
    injection h with _ h
    cases h

theorem setIndexed_write (hN : NumLaws N) (ps : List Point) (pre post : List SVal)
    (x a : SVal) (del : List Int) (ha : SOk k a) (hn : pre.length ≤ 9223372036854775807) :
    setIndexed N k (idxPt N pt k (pre.length, a) :: ps) (pre ++ x :: post) del = setIndexed N k ps (pre ++ a :: post) del := by
  have hstep : setIndexed N k (idxPt N pt k (pre.length, a) :: ps) (pre ++ x :: post) del =
      setIndexed N k ps ((pre ++ x :: post).set pre.length a) del :=
    setIndexed_cons_live (indexOf_itoa _ hn) rfl (by rw [List.length_append, List.length_cons]; omega)
      (setScalar_pointOf hN (itoa pre.length) a ha)
  rw [hstep, List.set_append_right _ _ (Nat.le_refl _), Nat.sub_self, List.set_cons_zero]

/-- `pre`: the elements before index `pre.length`, already final. `bs ++ zs`: the rest of the grown slice; `zs` pads `bs` to the
    length of `as` (`hz`). -/
theorem setIndexed_changed_from (hN : NumLaws N) (del : List Int)
    (as bs pre zs : List SVal) (hok : ∀ a ∈ as, SOk k a) (hi : pre.length + as.length ≤ 9223372036854775807)
    (hz : zs.length = as.length - bs.length) :
    setIndexed N k ((changed N k pre.length bs as).map (idxPt N pt k)) (pre ++ (bs ++ zs)) del =
      (pre ++ (mergeL N k bs as ++ bs.drop as.length), del, .ok) := by
  induction as generalizing bs pre zs with
  | nil =>
    cases List.eq_nil_of_length_eq_zero (hz.trans (Nat.zero_sub _))
    cases bs with
    | nil => rfl
    | cons =>
      rw [List.append_nil]
      rfl
  | cons a as ih =>
    have step (x : SVal) (bs' zs' : List SVal) (hz' : zs'.length = as.length - bs'.length) :
        setIndexed N k ((changed N k (pre.length + 1) bs' as).map (idxPt N pt k)) (pre ++ x :: (bs' ++ zs')) del =
          (pre ++ x :: (mergeL N k bs' as ++ bs'.drop as.length), del, .ok) := by
      have := ih bs' (pre ++ [x]) zs' (fun v hv => hok v (List.mem_cons_of_mem _ hv))
        (by rw [List.length_append, List.length_singleton, Nat.add_right_comm]; exact hi) hz'
      rwa [List.length_append, List.append_assoc, List.append_assoc] at this
    have write (x : SVal) (ps : List Point) (post : List SVal) :
        setIndexed N k (idxPt N pt k (pre.length, a) :: ps) (pre ++ x :: post) del = setIndexed N k ps (pre ++ a :: post) del :=
      setIndexed_write hN ps pre post x a del (hok a List.mem_cons_self) (Nat.le_trans (Nat.le_add_right ..) hi)
    cases bs with
    | nil =>
      cases zs with
      | nil => cases hz
      | cons z zs =>
        have := step a [] zs (Nat.succ.inj hz)
        rw [List.drop_nil] at this ⊢
        exact (write z _ _).trans this
    | cons b bs =>
      have hz : zs.length = as.length - bs.length := hz.trans (Nat.succ_sub_succ ..)
      cases h : !sEq N k a b <;> simp only [changed, mergeL, h, Bool.false_eq_true, if_false, if_true]
      · exact step b bs zs hz
      · exact (write b _ _).trans (step a bs zs hz)

theorem setIndexed_changed (hN : NumLaws N) (del : List Int) (as bs zs : List SVal)
    (hok : ∀ a ∈ as, SOk k a) (hla : as.length ≤ maxStructureSize) (hz : zs.length = as.length - bs.length) :
    setIndexed N k ((changed N k 0 bs as).map (idxPt N pt k)) (bs ++ zs) del =
      (mergeL N k bs as ++ bs.drop as.length, del, .ok) :=
  setIndexed_changed_from hN del as bs [] zs hok (by simpa using fits_int64 hla) hz

def descInts (n c : Nat) : List Int := (List.range' n c).reverse.map fun (i : Nat) => (i : Int)

theorem deadPts_succ (n c : Nat) :
    deadPts pt n (c + 1) = { type := pt, key := itoa (n + c), tomb := 1 } :: deadPts pt n c := by
  simp [deadPts, tombPts, List.range'_concat]

theorem descInts_succ (n c : Nat) : descInts n (c + 1) = ((n + c : Nat) : Int) :: descInts n c := by
  simp [descInts, List.range'_concat]

/-- the tombstones of the cut tail zero it from the top down and are recorded in `del`, in that order -/
theorem setIndexed_dead (n : Nat) (c : Nat) (cur : List SVal) (del : List Int)
    (hlen : n + c ≤ cur.length) (hb : n + c ≤ 9223372036854775807) :
    ∃ cur', setIndexed N k (deadPts pt n c) cur del = (cur', del ++ descInts n c, .ok) ∧
      cur'.length = cur.length ∧ cur'.take n = cur.take n := by
  induction c generalizing cur del with
  | zero => exact ⟨cur, by simp [deadPts, tombPts, descInts, setIndexed], rfl, rfl⟩
  | succ c ih =>
    obtain ⟨cur', hrun, hlen', htake⟩ := ih (cur.set (n + c) (zeroS k)) (del ++ [((n + c : Nat) : Int)])
      (by rw [List.length_set]; exact Nat.le_of_succ_le hlen) (Nat.le_of_succ_le hb)
    refine ⟨cur', ?_, by rw [hlen', List.length_set], by rw [htake, List.take_set_of_le (Nat.le_add_right ..)]⟩
    have hstep : setIndexed N k ({ type := pt, key := itoa (n + c), tomb := 1 } :: deadPts pt n c) cur del =
        setIndexed N k (deadPts pt n c) (cur.set (n + c) (zeroS k)) (del ++ [((n + c : Nat) : Int)]) :=
      setIndexed_cons_dead (indexOf_itoa (n + c) (Nat.le_of_succ_le hb)) rfl (Nat.lt_of_succ_le hlen)
    rw [deadPts_succ, descInts_succ, hstep, hrun, List.append_assoc]
    rfl

theorem insertSorted_max (x : Int) (ys : List Int) (h : ∀ y ∈ ys, y < x) : insertSorted x ys = ys ++ [x] := by
  induction ys with
  | nil => rfl
  | cons y ys ih =>
    rw [insertSorted, if_neg (Int.not_le.mpr (h y List.mem_cons_self)), ih fun z hz => h z (List.mem_cons_of_mem _ hz)]
    rfl

theorem descInts_pairwise (n c : Nat) : (descInts n c).Pairwise (· > ·) := by
  rw [descInts, List.pairwise_map, List.pairwise_reverse]
  exact List.Pairwise.imp Int.ofNat_lt.mpr List.pairwise_lt_range'

theorem sortInts_desc : ∀ l : List Int, l.Pairwise (· > ·) → sortInts l = l.reverse
  | [], _ => rfl
  | x :: l, h => by
    rw [List.pairwise_cons] at h
    show insertSorted x (sortInts l) = _
    rw [sortInts_desc l h.2, List.reverse_cons]
    exact insertSorted_max _ _ fun y hy => h.1 y (List.mem_reverse.mp hy)

theorem trimLen_descInts (n c : Nat) : trimLen (descInts n c) (n + c) = n := by
  unfold trimLen
  rw [sortInts_desc _ (descInts_pairwise n c), List.reverse_reverse]
  induction c with
  | zero => simp [descInts]
  | succ c ih =>
    rw [descInts_succ, List.foldl_cons, show ((n + (c + 1) : Nat) : Int) - 1 = (n + c : Nat) by omega]
    simp only [Bool.false_eq_true, if_false, Int.lt_irrefl, if_true]
    exact ih

theorem idxPts_type (bs as : List SVal) : ∀ p ∈ idxPts N pt k bs as, p.type = pt := by
  intro p hp
  rcases List.mem_append.mp hp with hp | hp
  · obtain ⟨_, _, rfl⟩ := List.mem_map.mp hp
    rfl
  · exact tombPts_type _ p hp

theorem idxPts_keyIdx (bs as : List SVal) (hla : as.length ≤ maxStructureSize) (hlb : bs.length ≤ maxStructureSize) :
    ∀ p ∈ idxPts N pt k bs as, IndexUpTo ((as.length : Int) - 1) p := by
  intro p hp
  rcases List.mem_append.mp hp with hp | hp
  · obtain ⟨j, hj, rfl⟩ := List.mem_map.mp hp
    have hlt : j.1 < as.length := (mem_changed hj).2
    exact ⟨(j.1 : Nat), keyIdx_itoa _ _ (fits_int64 (Nat.le_trans (Nat.le_of_lt hlt) hla)) rfl, Int.natCast_nonneg _,
      fun _ => Int.le_sub_one_of_lt (Int.ofNat_lt.mpr hlt)⟩
  · obtain ⟨_, hkey, rfl⟩ := List.mem_map.mp hp
    obtain ⟨j, hj, rfl⟩ := List.mem_map.mp hkey
    have := (List.mem_range'_1.mp (List.mem_reverse.mp hj)).2
    exact ⟨(j : Nat), keyIdx_itoa _ _ (fits_int64 (by omega)) rfl, Int.natCast_nonneg _, fun h => nomatch h⟩

/-- the group of the points: no bad key, `keyMaxInt` inside the new slice, and at its last index where the slice grows -/
theorem group_idxPts (bs as : List SVal) (hla : as.length ≤ maxStructureSize) (hlb : bs.length ≤ maxStructureSize) :
    ((idxPts N pt k bs as).foldl groupStep {}).keyNotIndex = [] ∧
    ((idxPts N pt k bs as).foldl groupStep {}).keyMaxInt ≤ (as.length : Int) - 1 ∧
    (bs.length < as.length → ((idxPts N pt k bs as).foldl groupStep {}).keyMaxInt = (as.length : Int) - 1) := by
  have hb := foldl_groupStep_bounds ((as.length : Int) - 1) (idxPts N pt k bs as) {} rfl
    (Int.sub_le_sub_right (Int.natCast_nonneg as.length) 1) (idxPts_keyIdx bs as hla hlb)
  refine ⟨hb.1, hb.2, fun hlt => ?_⟩
  -- the last element of the longer slice is among the changed ones, and its index a lower bound
  have hpos : as.length - 1 < as.length := Nat.sub_one_lt (Nat.ne_of_gt (Nat.zero_lt_of_lt hlt))
  have hlast := mem_changed_of_ge (N := N) (k := k) bs as _ (Nat.le_sub_one_of_lt hlt) hpos
  have hlow := foldl_groupStep_lower (idxPts N pt k bs as) {} gInv_empty (idxPt N pt k (_, _)) _
    (List.mem_append_left _ (List.mem_map_of_mem hlast))
    (keyIdx_itoa _ _ (fits_int64 (Nat.le_trans (Nat.le_of_lt hpos) hla)) rfl) rfl hb.1
  have hcast : ((as.length - 1 : Nat) : Int) = (as.length : Int) - 1 := by omega
  rw [hcast] at hlow
  exact Int.le_antisymm hb.2 hlow

/-- how far `SetValue` grows the old slice: to the new length where that is longer, not at all else -/
theorem grow_idxPts (bs as : List SVal) (hla : as.length ≤ maxStructureSize) (hlb : bs.length ≤ maxStructureSize) :
    (((idxPts N pt k bs as).foldl groupStep {}).keyMaxInt + 1).toNat - bs.length = as.length - bs.length := by
  obtain ⟨-, hmax, hlast⟩ := group_idxPts (N := N) (pt := pt) (k := k) bs as hla hlb
  by_cases hlt : bs.length < as.length
  · rw [hlast hlt, Int.sub_add_cancel, Int.toNat_natCast]
  · have hle := Nat.le_of_not_lt hlt
    rw [Nat.sub_eq_zero_of_le hle, Nat.sub_eq_zero_of_le (Nat.le_trans (Int.toNat_le.mpr (Int.add_le_of_le_sub_right hmax)) hle)]

/-- what the indexed loop returns on the points of the diff, run on the old slice padded to the new length: the changed
    elements written, the cut tail zeroed and recorded -/
theorem setIndexed_idxPts (hN : NumLaws N) (bs as : List SVal)
    (hla : as.length ≤ maxStructureSize) (hlb : bs.length ≤ maxStructureSize) (hok : ∀ a ∈ as, SOk k a) :
    ∃ cur', setIndexed N k (idxPts N pt k bs as) (bs ++ List.replicate (as.length - bs.length) (zeroS k)) [] =
        (cur', descInts as.length (bs.length - as.length), .ok) ∧
      cur'.length = as.length + (bs.length - as.length) ∧ cur'.take as.length = mergeL N k bs as := by
  obtain ⟨cur', hrun, hlen, htake⟩ := setIndexed_dead (N := N) (k := k) (pt := pt) as.length (bs.length - as.length)
    (mergeL N k bs as ++ bs.drop as.length) []
    (by rw [List.length_append, length_mergeL, List.length_drop]; exact Nat.le_refl _) (fits_int64 (by omega))
  refine ⟨cur', ?_, ?_, ?_⟩
  · rw [idxPts, setIndexed_append N k _ _ _ _ _ _ (setIndexed_changed hN [] as bs _ hok hla List.length_replicate), hrun,
      List.nil_append]
  · rw [hlen, List.length_append, length_mergeL, List.length_drop]
  · rw [htake, List.take_left' (length_mergeL ..)]

theorem mergeField_slice (hN : NumLaws N) (bs as : List SVal)
    (hla : as.length ≤ maxStructureSize) (hlb : bs.length ≤ maxStructureSize) (hok : ∀ a ∈ as, SOk k a) :
    mergeField N (.slice k) (.slice bs) (idxPts N pt k bs as) = (.slice (mergeL N k bs as), .ok) := by
  refine mergeField_of_setValue trivial nofun ?_
  obtain ⟨hkey, hmax, -⟩ := group_idxPts bs as hla hlb
  have hgrow := grow_idxPts (N := N) (pt := pt) (k := k) bs as hla hlb
  have hpts := group_points (idxPts N pt k bs as)
  obtain ⟨cur', hrun, hlen, htake⟩ := setIndexed_idxPts (pt := pt) hN bs as hla hlb hok
  -- from here on only these facts about the group matter: name it, so that the rewrites do not carry the fold
  generalize (idxPts N pt k bs as).foldl groupStep {} = G at hkey hmax hgrow hpts ⊢
  -- past the two checks: grown to the new length, the loop run, the recorded tail trimmed off
  rw [setValue_slice, hkey, if_neg (by decide), if_neg (show ¬G.keyMaxInt > maxStructureSize by omega), hpts, hgrow, hrun]
  dsimp only
  rw [hlen, trimLen_descInts, htake]

/-- `zs`: what the array holds beyond `bs` (all of it when decoding into the zero value, nothing when merging a diff) -/
theorem mergeField_array (hN : NumLaws N) (bs zs as : List SVal)
    (hla : as.length ≤ maxStructureSize) (hl : (bs ++ zs).length = as.length) (hok : ∀ a ∈ as, SOk k a) :
    mergeField N (.array as.length k) (.array (bs ++ zs)) (idxPts N pt k bs as) = (.array (mergeL N k bs as), .ok) := by
  refine mergeField_of_setValue hl nofun ?_
  rw [List.length_append] at hl
  have hlb : bs.length ≤ as.length := hl ▸ Nat.le_add_right ..
  obtain ⟨hkey, hmax, -⟩ := group_idxPts bs as hla (Nat.le_trans hlb hla)
  have hpts := group_points (idxPts N pt k bs as)
  generalize (idxPts N pt k bs as).foldl groupStep {} = G at hkey hmax hpts ⊢
  -- no tail to cut: all points are live
  have hdead : deadPts pt as.length (bs.length - as.length) = [] := by
    rw [Nat.sub_eq_zero_of_le hlb]
    rfl
  -- past the three checks the loop runs on the array as it is
  rw [setValue_array, hkey, if_neg (by decide), if_neg (show ¬G.keyMaxInt > maxStructureSize by omega),
    if_neg (Int.not_lt.mpr hmax), hpts, idxPts, hdead, List.append_nil,
    setIndexed_changed hN [] as bs zs hok hla (by omega), List.drop_eq_nil_of_le hlb, List.append_nil]

end Siot.Config
