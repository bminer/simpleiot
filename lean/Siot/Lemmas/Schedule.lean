import Siot.Spec.Window
/- The two filters, and the arithmetic of days, which all goes through three facts about `dayOf`: `dayOf_mono`,
   `dayOf_add_day`, `dayOf_startOf`. -/
namespace Siot.Schedule
open Siot

theorem contains_iff (r : Range) (t : Int) : r.contains t = true ↔ r.start ≤ t ∧ t < r.stop := by
  unfold Range.contains
  -- the model's first guard is redundant: when `r.stop < r.start` no `t` has `r.start ≤ t < r.stop`
  grind

theorem datesFor_ok (r : Range) (ds : List Bytes) (h : ∀ d ∈ ds, parseDate d ≠ none) :
    datesFor r ds =
      .ok ((ds.filter fun d => parseDate d = some (civil (dayOf r.start))).map fun _ => r) := by
  induction ds with
  | nil => rfl
  | cons d ds ih =>
    obtain ⟨ymd, hp⟩ := Option.ne_none_iff_exists'.mp (h d List.mem_cons_self)
    rw [datesFor, hp, ih fun x hx => h x (List.mem_cons_of_mem _ hx)]
    simp only [List.filter_cons, hp, Option.some.injEq]
    split <;> simp [*]

theorem filterDatesLoop_ok (dates : List Bytes) (rs : List Range)
    (h : ∀ d ∈ dates, parseDate d ≠ none) :
    filterDatesLoop dates rs = .ok (rs.flatMap fun r =>
      (dates.filter fun d => parseDate d = some (civil (dayOf r.start))).map fun _ => r) := by
  induction rs with
  | nil => rfl
  | cons r rs ih => rw [filterDatesLoop, datesFor_ok r dates h, ih]; rfl

theorem filterWeekdays_mem (wds : List Int) (rs : List Range) (x : Range) :
    x ∈ filterWeekdays wds rs ↔ x ∈ rs ∧ (wds = [] ∨ weekday (dayOf x.start) ∈ wds) := by
  unfold filterWeekdays
  cases wds <;> simp

theorem filterDates_ok (dates : List Bytes) (rs : List Range)
    (h : ∀ d ∈ dates, parseDate d ≠ none) :
    ∃ l, filterDates dates rs = .ok l ∧ ∀ x, x ∈ l ↔
      x ∈ rs ∧ (dates = [] ∨ ∃ d ∈ dates, parseDate d = some (civil (dayOf x.start))) := by
  cases dates with
  | nil => exact ⟨rs, rfl, by simp⟩
  | cons d ds =>
    refine ⟨_, filterDatesLoop_ok _ rs h, fun x => ?_⟩
    simp only [List.mem_flatMap, List.mem_map, List.mem_filter, decide_eq_true_eq, reduceCtorEq,
      false_or]
    constructor
    · rintro ⟨r, hr, d, hd, rfl⟩; exact ⟨hr, d, hd⟩
    · rintro ⟨hr, d, hd⟩; exact ⟨x, hr, d, hd, rfl⟩

theorem filters_ok (wds : List Int) (dates : List Bytes) (rs : List Range)
    (h : ∀ d ∈ dates, parseDate d ≠ none) :
    ∃ l, filterDates dates (filterWeekdays wds rs) = .ok l ∧
      ∀ x, x ∈ l ↔ x ∈ rs ∧ allowed wds dates (dayOf x.start) := by
  obtain ⟨l, hl, hm⟩ := filterDates_ok dates (filterWeekdays wds rs) h
  exact ⟨l, hl, fun x => by rw [hm, filterWeekdays_mem, and_assoc]; rfl⟩

theorem dayOf_mono {t t' : Int} (h : t ≤ t') : dayOf t ≤ dayOf t' := Int.ediv_le_ediv (by decide) h

theorem dayOf_add_day (t : Int) : dayOf (t + dayNs) = dayOf t + 1 := by
  have := Int.add_mul_ediv_right t 1 (c := dayNs) (by decide)
  rwa [Int.one_mul] at this

theorem clock_bounds {h m : Nat} (hh : h < 24) (hm : m < 60) :
    0 ≤ (h : Int) * hourNs + m * minNs ∧ (h : Int) * hourNs + m * minNs < dayNs := by
  unfold hourNs minNs dayNs; omega

theorem dayOf_startOf (D : Int) {h m : Nat} (hh : h < 24) (hm : m < 60) :
    dayOf (startOf D h m) = D := by
  unfold dayOf startOf
  rw [Int.add_assoc, Int.mul_add_ediv_right _ _ (by decide),
    Int.ediv_eq_zero_of_lt (clock_bounds hh hm).1 (clock_bounds hh hm).2, Int.add_zero]

theorem startOf_pred (D : Int) (h m : Nat) : startOf (D - 1) h m = startOf D h m - dayNs := by
  unfold startOf; rw [Int.sub_mul, Int.one_mul]; omega

theorem endOf_def (D : Int) (sh sm eh em : Nat) : endOf D sh sm eh em =
    if startOf D sh sm < startOf D eh em then startOf D eh em else startOf D eh em + dayNs := rfl

theorem endOf_pred (D : Int) (sh sm eh em : Nat) :
    endOf (D - 1) sh sm eh em = endOf D sh sm eh em - dayNs := by
  simp only [endOf_def, startOf_pred, Int.sub_lt_sub_right_iff]
  split
  · rfl
  · rw [Int.sub_add_cancel, Int.add_sub_cancel]

theorem startOf_lt_endOf (D : Int) {sh sm eh em : Nat}
    (hsh : sh < 24) (hsm : sm < 60) (heh : eh < 24) (hem : em < 60) :
    startOf D sh sm < endOf D sh sm eh em := by
  rw [endOf_def]
  split
  · assumption
  · refine Int.not_le.mp fun h => ?_
    have := dayOf_mono h
    rw [dayOf_add_day, dayOf_startOf D hsh hsm, dayOf_startOf D heh hem] at this
    omega

theorem window_days {t D : Int} {sh sm eh em : Nat}
    (hsh : sh < 24) (hsm : sm < 60) (heh : eh < 24) (hem : em < 60)
    (hin : inWindow t D sh sm eh em) :
    D = dayOf t ∨ ¬ startOf D sh sm < startOf D eh em ∧ D = dayOf t - 1 := by
  have h1 := dayOf_mono hin.1
  have h2 := dayOf_mono (Int.le_of_lt hin.2)
  rw [dayOf_startOf D hsh hsm] at h1
  rw [endOf_def] at h2
  split at h2
  · rw [dayOf_startOf D heh hem] at h2
    exact .inl (Int.le_antisymm h1 h2)
  · rw [dayOf_add_day, dayOf_startOf D heh hem] at h2
    omega

/-- the days whose windows `activeForTime` tries at an instant of day `D` -/
def days (D : Int) (sh sm eh em : Nat) : List Int :=
  if startOf D sh sm < startOf D eh em then [D] else [D, D - 1]

theorem mem_days {t D : Int} {sh sm eh em : Nat}
    (hsh : sh < 24) (hsm : sm < 60) (heh : eh < 24) (hem : em < 60)
    (hin : inWindow t D sh sm eh em) : D ∈ days (dayOf t) sh sm eh em := by
  unfold days
  rcases window_days hsh hsm heh hem hin with rfl | ⟨hw, rfl⟩
  · split <;> exact List.mem_cons_self
  · rw [startOf_pred, startOf_pred, Int.sub_lt_sub_right_iff] at hw
    rw [if_neg hw]
    exact List.mem_cons_of_mem _ List.mem_cons_self

theorem window_iff_exists_mem {wds : List Int} {dates : List Bytes} {sh sm eh em : Nat} {t : Int}
    {l : List Int} (hl : ∀ D, inWindow t D sh sm eh em → D ∈ l) :
    (∃ D ∈ l, allowed wds dates D ∧ inWindow t D sh sm eh em) ↔ window wds dates sh sm eh em t :=
  ⟨fun ⟨D, _, h⟩ => ⟨D, h⟩, fun ⟨D, ha, hin⟩ => ⟨D, hl D hin, ha, hin⟩⟩

/-- the ranges `activeForTime` builds at an instant of day `D`: the windows of `days D` -/
def ranges (D : Int) (sh sm eh em : Nat) : List Range :=
  (days D sh sm eh em).map fun D => ⟨startOf D sh sm, endOf D sh sm eh em⟩

theorem ranges_eq (D : Int) (sh sm eh em : Nat) :
    (if startOf D sh sm < startOf D eh em then [(⟨startOf D sh sm, startOf D eh em⟩ : Range)]
      else [⟨startOf D sh sm, startOf D eh em + dayNs⟩, ⟨startOf D sh sm - dayNs, startOf D eh em⟩]) =
    ranges D sh sm eh em := by
  unfold ranges days
  split
  next h => rw [List.map, List.map, endOf_def, if_pos h]
  next h =>
    rw [List.map, List.map, List.map, endOf_pred, startOf_pred, endOf_def, if_neg h,
      Int.add_sub_cancel]

/-- whatever the clock values: `activeForTime` answers whether one of its ranges starts on an allowed day and
    contains the instant -/
theorem active_char (s : Sched) (t : Int) (sh sm eh em : Nat)
    (hs : parseHM s.start = some (sh, sm)) (he : parseHM s.stop = some (eh, em))
    (hd : ∀ d ∈ s.dates, parseDate d ≠ none) :
    ∃ b, activeForTime s t = .ok b ∧ (b = true ↔
      ∃ r ∈ ranges (dayOf t) sh sm eh em, allowed s.weekdays s.dates (dayOf r.start) ∧ r.contains t = true) := by
  obtain ⟨l, hl, hm⟩ := filters_ok s.weekdays s.dates (ranges (dayOf t) sh sm eh em) hd
  refine ⟨l.any (·.contains t), ?_, ?_⟩
  · unfold activeForTime
    simp only [hs, he]
    -- `erw`: the model spells `startOf` out
    erw [ranges_eq, hl]
  · simp only [List.any_eq_true, hm, and_assoc]

theorem active_iff_window (s : Sched) (t : Int) (sh sm eh em : Nat)
    (hs : parseHM s.start = some (sh, sm)) (he : parseHM s.stop = some (eh, em))
    (hsh : sh < 24) (hsm : sm < 60) (heh : eh < 24) (hem : em < 60)
    (hd : ∀ d ∈ s.dates, parseDate d ≠ none) :
    ∃ b, activeForTime s t = .ok b ∧ (b = true ↔ window s.weekdays s.dates sh sm eh em t) := by
  obtain ⟨b, hb, hiff⟩ := active_char s t sh sm eh em hs he hd
  refine ⟨b, hb, hiff.trans ?_⟩
  rw [← window_iff_exists_mem fun _ => mem_days hsh hsm heh hem]
  simp only [ranges, List.mem_map]
  constructor
  · rintro ⟨_, ⟨D, hD, rfl⟩, ha, hc⟩
    exact ⟨D, hD, dayOf_startOf D hsh hsm ▸ ha, (contains_iff ..).mp hc⟩
  · rintro ⟨D, hD, ha, hin⟩
    exact ⟨_, ⟨D, hD, rfl⟩, (dayOf_startOf D hsh hsm).symm ▸ ha, (contains_iff ..).mpr hin⟩

end Siot.Schedule
