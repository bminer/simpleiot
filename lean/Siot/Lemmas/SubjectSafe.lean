import Siot.Lemmas.Serial
import Siot.Lemmas.Crc16Detect
/-
The `log` exemption: when can an error of the guaranteed classes rewrite the subject field of a
packet into (NUL-padded) "log"?  `SubjectSafe` is a decidable predicate on the 16-byte field; under
it no burst of ≤16 bits and no ≤2-bit error can.
-/
namespace Siot.Serial
open Siot Siot.Crc16

/-- the indices of the one-bits, counted from `o`, in increasing order -/
def tIdx : Nat → List Bool → List Nat
  | _, [] => []
  | o, b :: bs => if b then o :: tIdx (o + 1) bs else tIdx (o + 1) bs

theorem tIdx_mem (bs : List Bool) : ∀ o q, q ∈ tIdx o bs → ∃ k, q = o + k ∧ IsTrue bs k := by
  induction bs with
  | nil => intro o q h; cases h
  | cons b bs ih =>
    intro o q h
    have tl : q ∈ tIdx (o + 1) bs → ∃ k, q = o + k ∧ IsTrue (b :: bs) k := fun h =>
      have ⟨k, hq, hk⟩ := ih _ _ h
      ⟨k + 1, by omega, hk⟩
    cases b
    · exact tl h
    · rcases List.mem_cons.mp h with rfl | h
      · exact ⟨0, rfl, rfl⟩
      · exact tl h

/-- at least three bits differ and the first and some later differing bit are ≥ 16 apart -/
def SafeAt (bits : List Bool) : Bool :=
  match tIdx 0 bits with
  | q1 :: q2 :: q3 :: rest => decide (q1 < q2) && decide (q2 < q3) && (q3 :: rest).any (fun ql => decide (q1 + 16 ≤ ql))
  | _ => false

theorem safeAt_spec (bits : List Bool) (h : SafeAt bits = true) :
    ∃ q1 q2 q3 ql, IsTrue bits q1 ∧ IsTrue bits q2 ∧ IsTrue bits q3 ∧ IsTrue bits ql ∧
      q1 < q2 ∧ q2 < q3 ∧ q1 + 16 ≤ ql := by
  have hm : ∀ q, q ∈ tIdx 0 bits → IsTrue bits q := fun q hq => by
    obtain ⟨k, rfl, hT⟩ := tIdx_mem bits 0 q hq
    rw [Nat.zero_add]
    exact hT
  unfold SafeAt at h
  split at h
  · rename_i q1 q2 q3 rest heq
    simp only [Bool.and_eq_true, decide_eq_true_eq, List.any_eq_true] at h
    obtain ⟨⟨h12, h23⟩, ql, hql, hfar⟩ := h
    rw [heq] at hm
    exact ⟨q1, q2, q3, ql, hm _ (.head _), hm _ (.tail _ (.head _)), hm _ (.tail _ (.tail _ (.head _))),
      hm _ (.tail _ (.tail _ hql)), h12, h23, hfar⟩
  · cases h

theorem safeAt_not_class (bits : List Bool) (h : SafeAt bits = true) {bs : List Bool} {o : Nat}
    (hsub : ∀ q, IsTrue bits q → IsTrue bs (o + q)) : ¬ (Burst16 bs ∨ AtMostTwo bs) := by
  obtain ⟨q1, q2, q3, ql, t1, t2, t3, tl, h12, h23, hfar⟩ := safeAt_spec bits h
  rintro (⟨_, i, hwin⟩ | ⟨_, i1, i2, htwo⟩)
  · have := hwin _ (hsub _ t1)
    have := hwin _ (hsub _ tl)
    omega
  · have := htwo _ (hsub _ t1)
    have := htwo _ (hsub _ t2)
    have := htwo _ (hsub _ t3)
    omega

/-- the 16-byte fields that `SerialDecode` reads as subject "log" -/
def target (a : Nat) : Bytes := List.replicate a 0 ++ logSubject ++ List.replicate (13 - a) 0

/-- "log" fits into the 16-byte field at the offsets 0 … 13 = 16 − 3, hence `range 14`: the difference of `F`
to each of these fields is a pattern out of reach of both error classes -/
def SubjectSafe (F : Bytes) : Bool :=
  (List.range 14).all (fun a => SafeAt (bitsOf (xorBytes F (target a))))

theorem trim_log (X : Bytes) (hl : X.length = 16) (h : trimNul X = logSubject) :
    ∃ a, a ≤ 13 ∧ X = target a := by
  obtain ⟨a, b, hX⟩ := trim_split X
  rw [h] at hX
  have : a + 3 + b = 16 := by
    rw [← hl, hX, List.length_append, List.length_append, List.length_replicate, List.length_replicate]; rfl
  exact ⟨a, by omega, by rw [hX, show b = 13 - a by omega]; rfl⟩

theorem field_xor (p e : Bytes) : field (xorBytes p e) = xorBytes (field p) (field e) := by
  rw [field, field, field, xorBytes_drop, xorBytes_take]

theorem field_length (d : Bytes) (h : 17 ≤ d.length) : (field d).length = 16 := by
  rw [field, List.length_take, List.length_drop]; omega

theorem isTrue_field (e : Bytes) (q : Nat) (h : IsTrue (bitsOf (field e)) q) : IsTrue (bitsOf e) (8 + q) := by
  cases e with
  | nil => cases h
  | cons e0 rest =>
    have h : (bitsOf (rest.take 16))[q]? = some true := h
    rw [IsTrue, bitsOf_cons, ← List.take_append_drop 16 rest, bitsOf_append,
      List.getElem?_append_right (Nat.le_add_right 8 q), show (bits8 e0).length = 8 from rfl,
      Nat.add_sub_cancel_left, List.getElem?_append_left (List.getElem?_eq_some_iff.mp h).1]
    exact h

end Siot.Serial
