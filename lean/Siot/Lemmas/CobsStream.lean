import Siot.Lemmas.CobsReader
/-
Successive `Read`s against the specification `bodiesOf` of the framing layer, and what `bodiesOf` is on the
streams that `Write` produces.
-/
namespace Siot.Cobs
open Siot

/-- specification of the framing layer on a whole byte stream: the non-empty zero-delimited
    bodies in order, and the unterminated residue -/
def bodiesOf (S : Bytes) : List Bytes × Bytes :=
  match h : cutAtZero (dropZeros S) with
  | some (f, rest) => (f :: (bodiesOf rest).1, (bodiesOf rest).2)
  | none => ([], dropZeros S)
termination_by S.length
decreasing_by
  have h1 := cutAtZero_length _ _ _ h
  have h2 := dropZeros_length_le S
  have : (dropZeros S).length = f.length + 1 + rest.length := by rw [h1]; simp; omega
  omega

theorem bodiesOf_eq (S : Bytes) : bodiesOf S = match cutAtZero (dropZeros S) with
    | some (f, rest) => (f :: (bodiesOf rest).1, (bodiesOf rest).2)
    | none => ([], dropZeros S) := by
  rw [bodiesOf]; split <;> next h => rw [h]

theorem readAll_char (cfg : Cfg) (fuel : Nat) (cs : List Bytes) (lo : Bytes) (bs : List Bytes) (res : Bytes)
    (hS : bodiesOf (lo ++ cs.flatten) = (bs, res)) (hb : ∀ f ∈ bs, Within cfg f.length)
    (hr : Within cfg res.length) (hf : bs.length < fuel) :
    readAll cfg fuel lo cs = bs.map (outFor cfg) ++ [.devErr] := by
  induction fuel generalizing cs lo bs with
  | zero => cases hf
  | succ fuel ih =>
    rw [bodiesOf_eq] at hS
    cases hc : cutAtZero (dropZeros (lo ++ cs.flatten)) with
    | none =>
      rw [hc] at hS; cases hS
      exact readAll_no_frame cs lo hc hr fuel
    | some fr =>
      rw [hc] at hS; cases hS
      obtain ⟨lo', cs', hrest, hstep⟩ := readAll_frame (hb _ List.mem_cons_self) cs lo hc
      rw [hstep, ih cs' lo' _ (hrest ▸ rfl) (fun g hg => hb g (List.mem_cons_of_mem _ hg))
        (Nat.lt_of_succ_lt_succ hf)]
      rfl

def stream (fs : List Bytes) : Bytes := fs.flatMap wire

theorem wire_append (f T : Bytes) : wire f ++ T = 0 :: (blocks f ++ 0 :: T) :=
  congrArg (0 :: ·) (List.append_assoc ..)

theorem dropZeros_wire (f T : Bytes) : dropZeros (wire f ++ T) = blocks f ++ 0 :: T := by
  rw [wire_append, dropZeros, if_pos rfl, dropZeros_zf (blocks_ne_nil f) (blocks_zf f)]

theorem bodiesOf_wire (f T : Bytes) :
    bodiesOf (wire f ++ T) = (blocks f :: (bodiesOf T).1, (bodiesOf T).2) := by
  rw [bodiesOf_eq, dropZeros_wire, cutAtZero_zf _ _ (blocks_zf f)]

theorem bodiesOf_junk {j : Bytes} (hne : j ≠ []) (hz : ZF j) (T : Bytes) :
    bodiesOf (j ++ 0 :: T) = (j :: (bodiesOf T).1, (bodiesOf T).2) := by
  rw [bodiesOf_eq, cutAtZero_dropZeros_zf j hne hz]

theorem bodiesOf_stream (fs : List Bytes) : bodiesOf (stream fs) = (fs.map blocks, []) := by
  induction fs with
  | nil => exact bodiesOf_eq []
  | cons f fs ih =>
    rw [stream, List.flatMap_cons, bodiesOf_wire, ← stream, ih]; rfl

end Siot.Cobs
