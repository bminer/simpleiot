import Siot.Lemmas.StoreMerge
/- last-write-wins: what the merge loop and Collapse compute, as a specification over the set of
   delivered points (property C01) -/
namespace Siot.Sync
open Siot Siot.Store

/-- read as an order, the rows of one owner only move forward (`StLe`); read the other way, `r'` dominates `r` -/
def RowsLe (r r' : List Point) : Prop := ∀ p ∈ r, ∃ q ∈ r', sameId q p = true ∧ p.time ≤ q.time

theorem RowsLe.of_subset {a b : List Point} (h : ∀ x ∈ a, x ∈ b) : RowsLe a b :=
  fun x hx => ⟨x, h x hx, sameId_refl x, Int.le_refl _⟩

theorem RowsLe.refl (a : List Point) : RowsLe a a := .of_subset fun _ h => h

theorem RowsLe.trans {a b c : List Point} (h1 : RowsLe a b) (h2 : RowsLe b c) : RowsLe a c := by
  intro x hx
  obtain ⟨y, hy, hs, ht⟩ := h1 x hx
  obtain ⟨z, hz, hs', ht'⟩ := h2 y hy
  exact ⟨z, hz, sameId_trans hs' hs, Int.le_trans ht ht'⟩

theorem RowsLe.union {a b c : List Point} (h1 : RowsLe a c) (h2 : RowsLe b c) : RowsLe (a ++ b) c :=
  fun x hx => (List.mem_append.mp hx).elim (h1 x) (h2 x)

theorem RowsLe.cons {p : Point} {a c : List Point} (h1 : RowsLe [p] c) (h2 : RowsLe a c) : RowsLe (p :: a) c := RowsLe.union h1 h2

theorem RowsLe.append {a b a' b' : List Point} (h1 : RowsLe a b) (h2 : RowsLe a' b') : RowsLe (a ++ a') (b ++ b') :=
  (h1.trans (.of_subset fun _ => List.mem_append_left _)).union (h2.trans (.of_subset fun _ => List.mem_append_right _))

theorem RowsLe.single {p c : Point} {l : List Point} (hc : c ∈ l) (hs : sameId c p = true) (ht : p.time ≤ c.time) : RowsLe [p] l :=
  fun x hx => by rw [List.mem_singleton.mp hx]; exact ⟨c, hc, hs, ht⟩

theorem RowsLe.replace {rest l : List Point} {p q : Point} (hu : IdUnique rest) (hq : q ∈ rest) (hs : sameId p q = true)
    (hle : q.time ≤ p.time) (hp : p ∈ l) (hl : ∀ c ∈ rest, sameId p c = false → c ∈ l) : RowsLe rest l := by
  intro c hc
  cases hpc : sameId p c
  · exact ⟨c, hl c hc hpc, sameId_refl c, Int.le_refl _⟩
  · rw [idUnique_eq hu hc hq (by rw [← sameId_congr hpc, hs])]
    exact ⟨p, hp, hs, hle⟩

end Siot.Sync

namespace Siot.Store
open Siot
open Siot.Sync (RowsLe)

def Newest (ds : List Point) (p : Point) : Prop := p ∈ ds ∧ ∀ q ∈ ds, sameId q p = true → q.time ≤ p.time

/-- two different delivered points of one identity never share a timestamp -/
def Admissible (ds : List Point) : Prop :=
  ∀ p ∈ ds, ∀ q ∈ ds, sameId p q = true → p.time = q.time → p = q

/-- the rows of one owner are the last-write-wins summary of the deliveries `ds` -/
structure LWW (rows ds : List Point) : Prop where
  uniq : IdUnique rows
  newest : ∀ p ∈ rows, Newest ds p
  cover : ∀ d ∈ ds, ∃ p ∈ rows, sameId p d = true

theorem lww_iff {rows ds : List Point} : LWW rows ds ↔ IdUnique rows ∧ (∀ p ∈ rows, p ∈ ds) ∧ RowsLe ds rows := by
  constructor
  · intro h
    refine ⟨h.uniq, fun p hp => (h.newest p hp).1, fun d hd => ?_⟩
    obtain ⟨r, hr, hs⟩ := h.cover d hd
    exact ⟨r, hr, hs, (h.newest r hr).2 d hd (by rw [sameId_symm, hs])⟩
  · intro ⟨hu, hsub, hdom⟩
    refine ⟨hu, fun p hp => ⟨hsub p hp, fun q hq hs => ?_⟩, fun d hd => ?_⟩
    · obtain ⟨r, hr, hrs, ht⟩ := hdom q hq
      rwa [idUnique_eq hu hr hp (sameId_trans hrs hs)] at ht
    · obtain ⟨r, hr, hrs, _⟩ := hdom d hd
      exact ⟨r, hr, hrs⟩

theorem LWW.of_dom {rows ds ds' : List Point} (h : LWW rows ds) (hsub : ∀ x ∈ ds, x ∈ ds') (hdom : RowsLe ds' ds) :
    LWW rows ds' :=
  have ⟨hu, hs, hd⟩ := lww_iff.mp h
  lww_iff.mpr ⟨hu, fun p hp => hsub p (hs p hp), hdom.trans hd⟩

theorem idUnique_lww_self {rows : List Point} (hu : IdUnique rows) : LWW rows rows :=
  lww_iff.mpr ⟨hu, fun _ h => h, .refl _⟩

theorem lww_mem_iff {rows ds : List Point} (h : LWW rows ds) (hadm : Admissible ds) (p : Point) : p ∈ rows ↔ Newest ds p := by
  refine ⟨h.newest p, fun hN => ?_⟩
  obtain ⟨r, hr, hrs⟩ := h.cover p hN.1
  have hrN := h.newest r hr
  have h1 := hN.2 r hrN.1 hrs
  have h2 := hrN.2 p hN.1 (by rw [sameId_symm, hrs])
  rwa [← hadm r hrN.1 p hN.1 hrs (Int.le_antisymm h1 h2)]

theorem rowsLe_upsert {rows : List Point} (p : Point) (hu : IdUnique rows) : RowsLe (rows ++ [p]) (upsert rows p) := by
  unfold upsert
  split
  · rename_i old hf
    obtain ⟨hold, hs⟩ := find_sameId hf
    split
    · rename_i hle
      have hp : p ∈ rows.map (fun q => if sameId p q then p else q) := List.mem_map.mpr ⟨old, hold, by rw [if_pos hs]⟩
      exact (RowsLe.replace hu hold hs hle hp fun c hc h => List.mem_map.mpr ⟨c, hc, by simp [h]⟩).union
        (.single hp (sameId_refl p) (Int.le_refl _))
    · rename_i hgt
      exact RowsLe.union (.refl _) (.single hold (by rw [sameId_symm, hs]) (Int.le_of_lt (Int.not_le.mp hgt)))
  · exact .refl _

theorem rowsLe_mergeBatch {db : List Point} (hu : IdUnique db) (batch : List Point) :
    RowsLe (db ++ batch) (mergeBatch db batch).1 := by
  induction batch generalizing db with
  | nil => rw [List.append_nil]; exact .refl _
  | cons p ps ih =>
    rw [mergeBatch_cons, ← List.singleton_append, ← List.append_assoc]
    exact ((rowsLe_upsert p hu).append (.refl _)).trans (ih (idUnique_upsert p hu))

/-- merging a batch that stands for the deliveries `B` (it is part of them and dominates them) -/
theorem lww_merge {rows ds batch B : List Point} (h : LWW rows ds) (hsub : ∀ p ∈ batch, p ∈ B) (hdom : RowsLe B batch) :
    LWW (mergeBatch rows batch).1 (ds ++ B) := by
  obtain ⟨hu, hs, hd⟩ := lww_iff.mp h
  refine lww_iff.mpr ⟨mergeBatch_idUnique hu batch, fun p hp => ?_, (hd.append hdom).trans (rowsLe_mergeBatch hu batch)⟩
  exact List.mem_append.mpr ((mem_mergeBatch hp).imp (hs p) (hsub p))

theorem mergeBatch_lww {rows ds : List Point} (h : LWW rows ds) (batch : List Point) : LWW (mergeBatch rows batch).1 (ds ++ batch) :=
  lww_merge h (fun _ h => h) (.refl _)

theorem collapse_spec (b : List Point) : IdUnique (collapse b) ∧ (∀ p ∈ collapse b, p ∈ b) ∧ RowsLe b (collapse b) := by
  induction b with
  | nil => exact ⟨List.Pairwise.nil, fun _ h => h, fun _ h => nomatch h⟩
  | cons p ps ih =>
    obtain ⟨hu, hm, hc⟩ := ih
    have hp : ∀ {l : List Point}, p ∈ l → RowsLe [p] l := fun h => .single h (sameId_refl p) (Int.le_refl _)
    rw [collapse]
    split
    · rename_i q hf
      obtain ⟨hq, hs⟩ := find_sameId hf
      split
      · -- `p` is newer than the point `q` kept so far: `q` goes
        rename_i hlt
        refine ⟨?_, fun x hx => ?_, .cons (hp (List.mem_cons_self ..)) (hc.trans ?_)⟩
        · exact List.pairwise_cons.mpr ⟨fun a ha => by simpa using (List.mem_filter.mp ha).2, hu.filter _⟩
        · exact List.mem_cons.mpr ((List.mem_cons.mp hx).imp_right fun h => hm x (List.mem_filter.mp h).1)
        · exact .replace hu hq hs (Int.le_of_lt hlt) (List.mem_cons_self ..) fun c hc' h =>
            List.mem_cons_of_mem _ (List.mem_filter.mpr ⟨hc', by simp [h]⟩)
      · rename_i hge
        exact ⟨hu, fun x hx => List.mem_cons_of_mem _ (hm x hx), .cons (.single hq (by rw [sameId_symm, hs]) (Int.not_lt.mp hge)) hc⟩
    · rename_i hf
      refine ⟨?_, fun x hx => ?_, .cons (hp (List.mem_cons_self ..)) (hc.trans ?_)⟩
      · exact List.pairwise_cons.mpr ⟨find_sameId_eq_none.mp hf, hu⟩
      · exact List.mem_cons.mpr ((List.mem_cons.mp hx).imp_right (hm x))
      · exact .of_subset fun _ => List.mem_cons_of_mem _

theorem lww_uncollapse {rows A b : List Point} (h : LWW rows (A ++ collapse b)) : LWW rows (A ++ b) :=
  have ⟨_, hm, hc⟩ := collapse_spec b
  h.of_dom (fun x hx => List.mem_append.mpr ((List.mem_append.mp hx).imp_right (hm x))) ((RowsLe.refl A).append hc)

/-- the rows of one owner after a list of batches (as `nodePoints` / `edgePoints` process them) -/
def rowsAfter (rows : List Point) : List (List Point) → List Point
  | [] => rows
  | b :: bs => rowsAfter (mergeBatch rows (collapse (b.map normPoint))).1 bs

/-- everything delivered, normalised as the store normalises it -/
def delivered (bs : List (List Point)) : List Point := (bs.flatten).map normPoint

theorem rowsAfter_lww {rows ds : List Point} (h : LWW rows ds) (bs : List (List Point)) :
    LWW (rowsAfter rows bs) (ds ++ delivered bs) := by
  induction bs generalizing rows ds with
  | nil => simpa [rowsAfter, delivered] using h
  | cons b bs ih =>
    obtain ⟨_, hsub, hdom⟩ := collapse_spec (b.map normPoint)
    simpa [rowsAfter, delivered, List.append_assoc] using ih (lww_merge h hsub hdom)

end Siot.Store
