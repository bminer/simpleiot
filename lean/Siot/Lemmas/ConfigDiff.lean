import Siot.Lemmas.ConfigIdx
import Siot.Lemmas.ConfigMap
import Siot.Lemmas.ConfigStruct
/-
What "gives `after`" means in the second half of C10 (`field_diff`, in Props/C10): equal up to Go's `==` on floats and the
order of map entries (`Near…`, `FNear`, `DiffRT`); and what each container file computes as the merged value (`mergeL`,
`selVals`, `mergeM`) is near the new one in that sense.
-/
namespace Siot.Config
open Siot

variable {N : Num} {pt : Bytes} {k : SKind}

/-- Go equality of the merged scalar `r` with the wanted scalar `a`: the same value, or two floats that Go's `==`
    calls equal (`DiffPoints` emits no point for a field whose old value is `==` to the new one, so the old value
    stays: +0 for -0). Both orders of `sEq` are there because `diffStruct` asks `sEq old new`, `diffIndexed` and the map diff
    `sEq new old`, and `Num.feq` is not assumed symmetric. -/
def Near (N : Num) (k : SKind) (r a : SVal) : Prop := r = a ∨ sEq N k r a = true ∨ sEq N k a r = true

theorem Near.refl (a : SVal) : Near N k a a := Or.inl rfl

theorem sEq_eq_of_not_float (x y : SVal) (hx : ∀ b, x ≠ .f b) (h : sEq N k x y = true) : x = y := by
  unfold sEq at h
  split at h
  · exact absurd rfl (hx _)
  · exact eq_of_beq h

theorem near_eq (N : Num) (k : SKind) (r a : SVal) (hr : ∀ b, r ≠ .f b) (ha : ∀ b, a ≠ .f b) (h : Near N k r a) : r = a := by
  rcases h with h | h | h
  · exact h
  · exact sEq_eq_of_not_float r a hr h
  · exact (sEq_eq_of_not_float a r ha h).symm

def NearL (N : Num) (k : SKind) : List SVal → List SVal → Prop
  | [], [] => True
  | r :: rs, a :: as => Near N k r a ∧ NearL N k rs as
  | _, _ => False

theorem NearL.refl (N : Num) (k : SKind) : ∀ l, NearL N k l l
  | [] => trivial
  | a :: l => ⟨Near.refl a, NearL.refl N k l⟩

theorem NearL.length_eq {N : Num} {k : SKind} : ∀ {r a : List SVal}, NearL N k r a → r.length = a.length
  | [], [], _ => rfl
  | _ :: _, _ :: _, h => congrArg (· + 1) (NearL.length_eq h.2)

theorem nearL_mergeL (bs as : List SVal) : NearL N k (mergeL N k bs as) as := by
  fun_induction mergeL N k bs as
  case case1 as => exact NearL.refl N k as
  case case2 => trivial
  case case3 b bs a as ih =>
    refine ⟨?_, ih⟩
    split
    · exact Near.refl a
    · next h => exact .inr (.inr (by simpa using h))

def NearS (N : Num) : List (Bytes × SKind) → List SVal → List SVal → Prop
  | [], [], [] => True
  | f :: fs, r :: rs, a :: as => Near N f.2 r a ∧ NearS N fs rs as
  | _, _, _ => False

theorem NearS.refl : ∀ (fs : Fields) (as : List SVal), fs.length = as.length → NearS N fs as as
  | [], [], _ => trivial
  | _ :: fs, a :: as, h => ⟨Near.refl a, NearS.refl fs as (Nat.succ.inj h)⟩

theorem nearS_changed (fs : Fields) (bs as : List SVal) (hb : fs.length = bs.length) (ha : fs.length = as.length) :
    NearS N fs (selVals (selChanged N) fs bs as) as := by
  have hr := Rows.of_length hb ha
  clear hb ha
  induction hr with
  | nil => trivial
  | @cons _ _ _ _ a _ _ ih =>
    refine ⟨?_, ih⟩
    split
    · exact Near.refl a
    · next h => exact .inr (.inl (by simpa [selChanged] using h))

/-- two maps with the same keys and `Near` values (Go maps are unordered) -/
def NearM (N : Num) (k : SKind) (r a : List (Bytes × SVal)) : Prop :=
  (r.map (·.1)).Nodup ∧ ∀ key, match lk a key with
    | some v => ∃ w, lk r key = some w ∧ Near N k w v
    | none => lk r key = none

theorem nearM_mergeM (bkv akv : List KV) (hb : (bkv.map (·.1)).Nodup) (ha : (akv.map (·.1)).Nodup) :
    NearM N k (mergeM N k bkv akv) akv := by
  refine ⟨keys_delAll _ _ (keys_setAll _ _ hb), fun key => ?_⟩
  rw [lk_mergeM bkv akv key ha]
  cases lk akv key with
  | none => rfl
  | some v =>
    cases lk bkv key with
    | none => exact ⟨v, rfl, Near.refl v⟩
    | some w =>
      dsimp only
      split
      · next h => exact ⟨w, rfl, .inr (.inr h)⟩
      · exact ⟨v, rfl, Near.refl v⟩

def FNear (N : Num) : FieldTy → FVal → FVal → Prop
  | .scalar k, .scalar r, .scalar a => Near N k r a
  | .ptr _, .ptr r, .ptr a => r = a
  | .slice k, .slice r, .slice a => NearL N k r a
  | .array _ k, .array r, .array a => NearL N k r a
  | .map k, .map r, .map a => NearM N k r a
  | .struct fs, .struct r, .struct a => NearS N fs r a
  | .ptrStruct _, .ptrStruct none, .ptrStruct none => True
  | .ptrStruct fs, .ptrStruct (some r), .ptrStruct (some a) => NearS N fs r a
  | _, _, _ => False

def DiffRT (N : Num) (ty : FieldTy) (b a : FVal) (ps : List Point) : Prop :=
  (ps = [] ∧ FNear N ty b a) ∨
  (ps ≠ [] ∧ ∃ r, setValue N (ps.foldl groupStep {}) ty b = (r, .ok) ∧ FNear N ty r a)

theorem diffRT_iff {N : Num} {ty : FieldTy} {b a : FVal} {ps : List Point} :
    DiffRT N ty b a ps ↔ ∃ r, mergeField N ty b ps = (r, .ok) ∧ FNear N ty r a := by
  cases ps <;> simp [DiffRT, mergeField, eq_comm]

end Siot.Config
