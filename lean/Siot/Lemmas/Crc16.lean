import Siot.Model.Crc16
/-
The register of `Model/Crc16.lean`: it stays within 16 bits, a high bit cannot be shifted out in
fewer steps than its position, it is linear over GF(2), and feeding it its own content clears it.
-/
namespace Siot.Crc16
open Siot

theorem poly_lt : poly < 2 ^ 16 := by decide

theorem xor_poly_ge (a : Nat) (h : a < 2 ^ 15) : 2 ^ 15 ≤ a ^^^ poly := by
  apply Nat.ge_two_pow_of_testBit
  rw [Nat.testBit_xor, Nat.testBit_lt_two_pow h]; rfl

theorem step_lt (s : Nat) (b : Bool) (h : s < 2 ^ 16) : step s b < 2 ^ 16 := by
  have h2 : s / 2 < 2 ^ 16 := Nat.lt_of_le_of_lt (Nat.div_le_self s 2) h
  unfold step
  split
  · exact Nat.xor_lt_two_pow h2 poly_lt
  · exact h2

theorem run_lt (bs : List Bool) : ∀ s, s < 2 ^ 16 → run s bs < 2 ^ 16 := by
  induction bs with
  | nil => intro s h; exact h
  | cons b bs ih => intro s h; exact ih _ (step_lt s b h)

theorem crc_lt (b : Bytes) : crc b < 2 ^ 16 := run_lt _ 0 (Nat.two_pow_pos 16)

/-- A step moves the highest set bit down by one place at most; from place 0 only a one-bit
shifts it out. -/
theorem step_ge (s : Nat) (b : Bool) (n : Nat) (hs : s < 2 ^ 16) (hn : 2 ^ n ≤ s) (hb : n = 0 → b = false) :
    2 ^ (n - 1) ≤ step s b := by
  unfold step
  split
  · have h16 : n < 16 := (Nat.pow_lt_pow_iff_right (by omega)).mp (Nat.lt_of_le_of_lt hn hs)
    exact Nat.le_trans (Nat.pow_le_pow_right (by omega) (Nat.le_trans (Nat.sub_le n 1) (Nat.le_of_lt_succ h16)))
      (xor_poly_ge (s / 2) (Nat.div_lt_of_lt_mul hs))
  · rename_i hc
    cases n with
    | zero =>
      rw [hb rfl] at hc
      have : s % 2 ≠ 1 := fun h => hc (by rw [h]; rfl)
      exact Nat.div_pos (by omega) (by omega)
    | succ n => exact (Nat.le_div_iff_mul_le (by omega)).mpr hn

theorem step_one_zero : step 0 true = poly := rfl

/-- the shift register is injective on zero input: only the zero state reaches zero -/
theorem step_false_eq_zero {s : Nat} (hs : s < 2 ^ 16) (h : step s false = 0) : s = 0 :=
  Decidable.by_contra fun hne =>
    Nat.ne_of_gt (step_ge s false 0 hs (Nat.pos_of_ne_zero hne) fun _ => rfl) h

theorem run_append (a b : List Bool) (s : Nat) : run s (a ++ b) = run (run s a) b := by
  induction a generalizing s with
  | nil => rfl
  | cons x a ih => exact ih _

def zeros (n : Nat) : List Bool := List.replicate n false

theorem zeros_length (n : Nat) : (zeros n).length = n := List.length_replicate

theorem zeros_succ (n : Nat) : zeros (n + 1) = false :: zeros n := rfl

theorem run_zero_zeros (m : Nat) : run 0 (zeros m) = 0 := by
  induction m with
  | zero => rfl
  | succ m ih => exact ih

theorem run_zeros_eq_zero (m : Nat) {s : Nat} (hs : s < 2 ^ 16) (h : run s (zeros m) = 0) : s = 0 := by
  induction m generalizing s with
  | zero => exact h
  | succ m ih => exact step_false_eq_zero hs (ih (step_lt s false hs) h)

theorem run_zeros_add (m n s : Nat) : run s (zeros (m + n)) = run (run s (zeros m)) (zeros n) := by
  rw [← run_append, zeros, zeros, zeros, List.replicate_append_replicate]

theorem run_zeros_succ (n s : Nat) : run s (zeros (n + 1)) = step (run s (zeros n)) false :=
  run_zeros_add n 1 s

theorem step_eq (s : Nat) (b : Bool) : step s b = s / 2 ^^^ (bif s.testBit 0 ^^ b then poly else 0) := by
  rw [Nat.testBit_zero]
  show (if (decide (s % 2 = 1) ^^ b) = true then _ else _) = _
  cases decide (s % 2 = 1) ^^ b <;> simp

theorem step_xor (s t : Nat) (a b : Bool) : step (s ^^^ t) (a ^^ b) = step s a ^^^ step t b := by
  have h : ∀ u v : Bool, (bif u ^^ v then poly else 0) = (bif u then poly else 0) ^^^ (bif v then poly else 0) := by
    decide
  rw [step_eq, step_eq, step_eq, Nat.testBit_xor, Nat.xor_div_two,
    show (s.testBit 0 ^^ t.testBit 0 ^^ (a ^^ b)) = (s.testBit 0 ^^ a ^^ (t.testBit 0 ^^ b)) by
      simp only [Bool.xor_assoc, Bool.xor_left_comm], h]
  ac_rfl

theorem step_true (s : Nat) : step s true = step s false ^^^ poly := by
  have := step_xor s 0 false true
  rwa [Nat.xor_zero] at this

def xorBytes : Bytes → Bytes → Bytes
  | a :: as, b :: bs => (a ^^^ b) :: xorBytes as bs
  | _, _ => []

theorem xorBytes_eq_zipWith (a : Bytes) : ∀ b, xorBytes a b = List.zipWith (· ^^^ ·) a b := by
  induction a with
  | nil => intro b; rfl
  | cons x a ih =>
    intro b
    cases b with
    | nil => rfl
    | cons y b => exact congrArg _ (ih b)

theorem xorBytes_length {a b : Bytes} (h : a.length = b.length) : (xorBytes a b).length = a.length := by
  rw [xorBytes_eq_zipWith, List.length_zipWith, ← h, Nat.min_self]

theorem xorBytes_drop (n : Nat) (a b : Bytes) : (xorBytes a b).drop n = xorBytes (a.drop n) (b.drop n) := by
  rw [xorBytes_eq_zipWith, xorBytes_eq_zipWith, List.drop_zipWith]

theorem xorBytes_take (n : Nat) (a b : Bytes) : (xorBytes a b).take n = xorBytes (a.take n) (b.take n) := by
  rw [xorBytes_eq_zipWith, xorBytes_eq_zipWith, List.take_zipWith]

theorem xorBytes_cancel (a b : Bytes) (h : a.length = b.length) : xorBytes a (xorBytes a b) = b := by
  rw [xorBytes_eq_zipWith, xorBytes_eq_zipWith]
  exact List.ext_getElem (by simp [h]) fun i _ _ => by simp [← UInt8.xor_assoc]

theorem bitsOf_cons (x : UInt8) (a : Bytes) : bitsOf (x :: a) = bits8 x ++ bitsOf a := rfl

theorem bitsOf_append (a b : Bytes) : bitsOf (a ++ b) = bitsOf a ++ bitsOf b := List.flatMap_append

theorem bitsOf_length (a : Bytes) : (bitsOf a).length = 8 * a.length := by
  induction a with
  | nil => rfl
  | cons x a ih => rw [bitsOf_cons, List.length_append, ih, List.length_cons, Nat.mul_succ, Nat.add_comm]; rfl

/-- linearity of the register: the xor of two inputs, started from the xor of two states -/
theorem run_xor (a : List Bool) : ∀ (b : List Bool) (s t : Nat), a.length = b.length →
    run (s ^^^ t) (List.zipWith xor a b) = run s a ^^^ run t b := by
  induction a with
  | nil =>
    intro b s t h
    cases b with
    | nil => rfl
    | cons _ _ => cases h
  | cons x a ih =>
    intro b s t h
    cases b with
    | nil => cases h
    | cons y b =>
      show run (step (s ^^^ t) (x ^^ y)) (List.zipWith xor a b) = run (step s x) a ^^^ run (step t y) b
      rw [step_xor, ih b _ _ (Nat.succ.inj h)]

theorem bits8_xor (a b : UInt8) : bits8 (a ^^^ b) = List.zipWith xor (bits8 a) (bits8 b) := by
  simp only [bits8, UInt8.toNat_xor, Nat.testBit_xor]
  rfl

theorem bitsOf_xor (a : Bytes) : ∀ b : Bytes, bitsOf (xorBytes a b) = List.zipWith xor (bitsOf a) (bitsOf b) := by
  induction a with
  | nil => intro b; rfl
  | cons x a ih =>
    intro b
    cases b with
    | nil => exact List.zipWith_nil_right.symm
    | cons y b =>
      rw [xorBytes, bitsOf_cons, bitsOf_cons, bitsOf_cons, bits8_xor, ih b,
        List.zipWith_append (l₁ := bits8 x) (l₂ := bits8 y) rfl]

/-- linearity at the byte level -/
theorem syndrome_xor (p e : Bytes) (h : p.length = e.length) :
    run 0 (bitsOf (xorBytes p e)) = run 0 (bitsOf p) ^^^ run 0 (bitsOf e) := by
  rw [bitsOf_xor]
  exact run_xor _ _ 0 0 (by rw [bitsOf_length, bitsOf_length, h])

/-- the low `k` bits of `c`, least significant first: the order in which `bits8` feeds a byte -/
def bitsLSB : Nat → Nat → List Bool
  | 0, _ => []
  | k + 1, c => c.testBit 0 :: bitsLSB k (c / 2)

theorem run_bitsLSB (k : Nat) : ∀ s, run s (bitsLSB k s) = s / 2 ^ k := by
  induction k with
  | zero => intro s; exact (Nat.div_one s).symm
  | succ k ih =>
    intro s
    show run (step s (s.testBit 0)) (bitsLSB k (s / 2)) = _
    rw [step_eq, Bool.xor_self, cond_false, Nat.xor_zero, ih, Nat.div_div_eq_div_mul, Nat.pow_succ, Nat.mul_comm]

theorem bitsLSB_append (n : Nat) : ∀ m lo hi, lo < 2 ^ m →
    bitsLSB m lo ++ bitsLSB n hi = bitsLSB (m + n) (lo + 2 ^ m * hi)
  | 0, lo, hi, h => by simp [show lo = 0 by omega, bitsLSB]
  | m + 1, lo, hi, h => by
    rw [Nat.add_right_comm, Nat.pow_succ, Nat.mul_right_comm]
    show _ :: (_ ++ _) = _ :: _
    rw [bitsLSB_append n m (lo / 2) hi (by omega), Nat.testBit_zero, Nat.testBit_zero,
      Nat.add_mul_mod_self_right, Nat.add_mul_div_right _ _ (by omega)]

theorem ofLe16_le16 (c : Nat) (h : c < 2 ^ 16) :
    ofLe16 (UInt8.ofNat (c % 256)) (UInt8.ofNat (c / 256 % 256)) = c := by
  rw [ofLe16, UInt8.toNat_ofNat', UInt8.toNat_ofNat', Nat.mod_mod, Nat.mod_mod,
    Nat.mod_eq_of_lt (Nat.div_lt_of_lt_mul (show c < 256 * 256 from h)), Nat.mod_add_div]

theorem syndrome_zero (body : Bytes) (lo hi : UInt8) (h : ofLe16 lo hi = crc body) :
    run 0 (bitsOf (body ++ [lo, hi])) = 0 := by
  have hb : bitsOf [lo, hi] = bitsLSB 16 (ofLe16 lo hi) := by
    rw [ofLe16, ← bitsLSB_append 8 8 _ _ lo.toNat_lt]; rfl
  rw [bitsOf_append, run_append, hb, h]
  exact (run_bitsLSB 16 (crc body)).trans (Nat.div_eq_of_lt (crc_lt body))

end Siot.Crc16
