import Siot.Lemmas.Basic
import Siot.Lemmas.ConfigMerge
/-
String-keyed maps, as association lists. The map loop of `SetValue` sets the entries of its live points and deletes those of
its tombstones; the points `DiffPoints` emits for a map field (encoding is the diff against the empty map) merge into
`mergeM`, which `lk_mergeM` describes.
-/
namespace Siot.Config
open Siot

variable {N : Num} {pt : Bytes} {k : SKind}

/-- look-up in an association list: the value of the first entry with the key -/
def lk (kvs : List (Bytes × SVal)) (key : Bytes) : Option SVal := (kvs.find? (fun kv => kv.1 == key)).map (·.2)

theorem lk_nil (key : Bytes) : lk [] key = none := rfl

theorem lk_cons (k0 : Bytes) (v0 : SVal) (l : List KV) (key : Bytes) :
    lk ((k0, v0) :: l) key = if k0 = key then some v0 else lk l key := by
  unfold lk
  rw [List.find?_cons]
  by_cases h : k0 = key
  · rw [if_pos h, beq_iff_eq.mpr h]; rfl
  · rw [if_neg h, beq_eq_false_iff_ne.mpr h]

theorem lk_eq_none_iff (l : List KV) (key : Bytes) : lk l key = none ↔ key ∉ l.map (·.1) := by
  rw [lk, Option.map_eq_none_iff, List.find?_eq_none, List.mem_map]
  exact ⟨fun h ⟨kv, hkv, hk⟩ => h kv hkv (beq_iff_eq.mpr hk), fun h kv hkv hk => h ⟨kv, hkv, beq_iff_eq.mp hk⟩⟩

theorem lk_some_mem (l : List KV) (key : Bytes) (v : SVal) (h : lk l key = some v) : (key, v) ∈ l := by
  obtain ⟨kv, hf, rfl⟩ := Option.map_eq_some_iff.mp h
  have := List.find?_some hf
  rw [← beq_iff_eq.mp this]
  exact List.mem_of_find?_eq_some hf

theorem lk_of_mem_nodup (l : List KV) (key : Bytes) (v : SVal) (hnd : (l.map (·.1)).Nodup) (h : (key, v) ∈ l) :
    lk l key = some v := by
  cases hl : lk l key with
  | none => exact absurd (List.mem_map_of_mem (f := (·.1)) h) ((lk_eq_none_iff l key).mp hl)
  | some v' =>
    have hpw : l.Pairwise (fun a b => a.1 ≠ b.1) := List.pairwise_map.mp hnd
    have he : (key, v') = (key, v) := pairwise_inj (·.1) hpw (lk_some_mem l key v' hl) h rfl
    rw [(Prod.mk.inj he).2]

theorem lk_append (l l' : List KV) (key : Bytes) : lk (l ++ l') key = (lk l key).or (lk l' key) := by
  simp only [lk, List.find?_append, Option.map_or]

/-- `setKey` replaces in place if the key is there: what it maps over the list keeps every entry's key -/
theorem repl_fst (k : Bytes) (v : SVal) (kv : KV) : (if kv.1 == k then (k, v) else kv).1 = kv.1 := by
  split
  · next h => exact (beq_iff_eq.mp h).symm
  · rfl

theorem any_key_iff (l : List KV) (k : Bytes) : l.any (fun kv => kv.1 == k) = true ↔ k ∈ l.map (·.1) := by
  rw [List.any_eq_true, List.mem_map]
  exact ⟨fun ⟨kv, h, hk⟩ => ⟨kv, h, beq_iff_eq.mp hk⟩, fun ⟨kv, h, hk⟩ => ⟨kv, h, beq_iff_eq.mpr hk⟩⟩

theorem lk_setKey (l : List KV) (k : Bytes) (v : SVal) (key : Bytes) :
    lk (setKey l k v) key = if key = k then some v else lk l key := by
  unfold setKey
  split
  · next ha =>
    -- replaced in place: the entry found for `key` is the old one, with the value `v` if `key = k`
    have hp : ((fun (kv : KV) => kv.1 == key) ∘ fun kv => if kv.1 == k then (k, v) else kv) = fun kv => kv.1 == key :=
      funext fun kv => congrArg (· == key) (repl_fst k v kv)
    unfold lk
    rw [List.find?_map, hp]
    cases hf : l.find? (fun kv => kv.1 == key) with
    | none =>
      rw [if_neg]
      · rfl
      · rintro rfl
        exact (lk_eq_none_iff l key).mp (by rw [lk, hf]; rfl) ((any_key_iff l key).mp ha)
    | some x =>
      have hx : x.1 = key := beq_iff_eq.mp (List.find?_some hf :)
      dsimp only [Option.map_some]
      rw [hx]
      by_cases hk : key = k <;> simp [hk]
  · next ha =>
    have : lk l k = none := (lk_eq_none_iff l k).mpr (mt (any_key_iff l k).mpr ha)
    rw [lk_append, lk_cons]
    by_cases hk : key = k <;> simp [hk, this, Ne.symm, lk_nil]

theorem lk_filter_ne (k : Bytes) (l : List KV) (key : Bytes) :
    lk (l.filter (fun kv => kv.1 != k)) key = if key = k then none else lk l key := by
  unfold lk
  rw [List.find?_filter]
  by_cases hk : key = k
  · rw [if_pos hk, Option.map_eq_none_iff, List.find?_eq_none]
    intro kv _ h
    have h := of_decide_eq_true h
    exact bne_iff_ne.mp h.1 ((beq_iff_eq.mp h.2).trans hk)
  · rw [if_neg hk]
    congr 2
    funext kv
    by_cases h : kv.1 = key
    · rw [beq_iff_eq.mpr h, bne_iff_ne.mpr (h ▸ hk)]; rfl
    · rw [beq_eq_false_iff_ne.mpr h]; exact decide_eq_false fun h => Bool.false_ne_true h.2

theorem lk_filter (l : List KV) (c : KV → Bool) (key : Bytes) (hnd : (l.map (·.1)).Nodup) :
    lk (l.filter c) key = (lk l key).filter fun v => c (key, v) := by
  induction l with
  | nil => rfl
  | cons kv l ih =>
    obtain ⟨k0, v0⟩ := kv
    rw [List.map_cons, List.nodup_cons] at hnd
    rw [List.filter_cons, lk_cons]
    by_cases hk : k0 = key
    · subst hk
      rw [if_pos rfl, Option.filter_some]
      split
      · rw [lk_cons, if_pos rfl]
      · rw [ih hnd.2, (lk_eq_none_iff l k0).mpr hnd.1]; rfl
    · rw [if_neg hk, ← ih hnd.2]
      split
      · rw [lk_cons, if_neg hk]
      · rfl

theorem keys_setKey (l : List KV) (k : Bytes) (v : SVal) (h : (l.map (·.1)).Nodup) : ((setKey l k v).map (·.1)).Nodup := by
  unfold setKey
  split
  · have := List.map_congr_left (l := l) fun kv _ => repl_fst k v kv
    rwa [List.map_map, Function.comp_def, this]
  · next ha =>
    rw [List.map_append, List.nodup_append]
    refine ⟨h, List.nodup_cons.mpr ⟨List.not_mem_nil, List.nodup_nil⟩, fun a ha' b hb => ?_⟩
    cases List.mem_singleton.mp hb
    rintro rfl
    exact ha ((any_key_iff l a).mpr ha')

theorem keys_filter (l : List KV) (f : KV → Bool) (h : (l.map (·.1)).Nodup) : ((l.filter f).map (·.1)).Nodup :=
  (List.Sublist.map _ List.filter_sublist).nodup h

def setAll (cur : List KV) (l : List KV) : List KV := l.foldl (fun acc kv => setKey acc kv.1 kv.2) cur
def delAll (cur : List KV) (keys : List Bytes) : List KV := keys.foldl (fun acc key => acc.filter (fun kv => kv.1 != key)) cur

theorem lk_setAll (l cur : List KV) (key : Bytes) (hnd : (l.map (·.1)).Nodup) :
    lk (setAll cur l) key = (lk l key).or (lk cur key) := by
  induction l generalizing cur with
  | nil => rfl
  | cons kv l ih =>
    obtain ⟨k0, v0⟩ := kv
    rw [List.map_cons, List.nodup_cons] at hnd
    rw [setAll, List.foldl_cons, ← setAll, ih _ hnd.2, lk_cons, lk_setKey]
    by_cases hk : k0 = key
    · rw [if_pos hk, if_pos hk.symm, (lk_eq_none_iff l key).mpr (hk ▸ hnd.1)]; rfl
    · rw [if_neg hk, if_neg (Ne.symm hk)]

theorem keys_setAll (l cur : List KV) (h : (cur.map (·.1)).Nodup) : ((setAll cur l).map (·.1)).Nodup := by
  induction l generalizing cur with
  | nil => exact h
  | cons kv l ih => exact ih _ (keys_setKey cur kv.1 kv.2 h)

theorem lk_delAll (keys : List Bytes) (cur : List KV) (key : Bytes) :
    lk (delAll cur keys) key = if key ∈ keys then none else lk cur key := by
  induction keys generalizing cur with
  | nil => rfl
  | cons k0 keys ih =>
    rw [delAll, List.foldl_cons, ← delAll, ih, lk_filter_ne]
    by_cases h1 : key ∈ keys <;> by_cases h2 : key = k0 <;> simp [h1, h2]

theorem keys_delAll (keys : List Bytes) (cur : List KV) (h : (cur.map (·.1)).Nodup) : ((delAll cur keys).map (·.1)).Nodup := by
  induction keys generalizing cur with
  | nil => exact h
  | cons k0 keys ih => exact ih _ (keys_filter cur _ h)

theorem setKey_fresh (acc : List KV) (key : Bytes) (v : SVal) (h : ∀ kv ∈ acc, kv.1 ≠ key) :
    setKey acc key v = acc ++ [(key, v)] := by
  have hany : ¬acc.any (fun kv => kv.1 == key) = true := by
    rw [List.any_eq_true]
    exact fun ⟨kv, hkv, hk⟩ => h kv hkv (beq_iff_eq.mp hk)
  unfold setKey
  exact if_neg hany

theorem setAll_fresh (l cur : List KV) (hnd : ((cur ++ l).map (·.1)).Nodup) : setAll cur l = cur ++ l := by
  induction l generalizing cur with
  | nil => exact (List.append_nil cur).symm
  | cons kv l ih =>
    have hfresh : ∀ x ∈ cur, x.1 ≠ kv.1 := by
      rw [List.map_append, List.nodup_append] at hnd
      exact fun x hx => hnd.2.2 _ (List.mem_map_of_mem hx) _ (List.mem_map_of_mem List.mem_cons_self)
    rw [setAll, List.foldl_cons, ← setAll, setKey_fresh cur kv.1 kv.2 hfresh, ih _ (by rwa [List.append_assoc]), List.append_assoc]
    rfl

def kvPt (N : Num) (pt : Bytes) (k : SKind) (kv : KV) : Point := pointOf N pt k kv.1 kv.2

theorem setMap_write (hN : NumLaws N) (key : Bytes) (v : SVal) (ps : List Point) (cur : List KV)
    (hv : SOk k v) (hk : key ≠ []) : setMap N k (pointOf N pt k key v :: ps) cur = setMap N k ps (setKey cur key v) := by
  obtain ⟨c, cs, rfl⟩ := List.exists_cons_of_ne_nil hk
  simp only [setMap, pointOf_key, pointOf_tomb, List.isEmpty_cons, tombOdd_zero, Bool.false_eq_true, if_false,
    setScalar_pointOf hN _ v hv]

theorem setMap_live (hN : NumLaws N) (l : List KV) (rest : List Point) (cur : List KV)
    (hok : ∀ kv ∈ l, SOk k kv.2) (hne : ∀ kv ∈ l, kv.1 ≠ []) :
    setMap N k (l.map (kvPt N pt k) ++ rest) cur = setMap N k rest (setAll cur l) := by
  induction l generalizing cur with
  | nil => rfl
  | cons kv l ih =>
    obtain ⟨hok1, hok⟩ := List.forall_mem_cons.mp hok
    obtain ⟨hne1, hne⟩ := List.forall_mem_cons.mp hne
    exact (setMap_write hN kv.1 kv.2 _ cur hok1 hne1).trans (ih _ hok hne)

theorem setMap_dead (keys : List Bytes) (cur : List KV) (hne : ∀ key ∈ keys, key ≠ []) :
    setMap N k (tombPts pt keys) cur = (delAll cur keys, .ok) := by
  induction keys generalizing cur with
  | nil => rfl
  | cons k0 keys ih =>
    obtain ⟨h0, hks⟩ := List.forall_mem_cons.mp hne
    obtain ⟨c, cs, rfl⟩ := List.exists_cons_of_ne_nil h0
    rw [tombPts, List.map_cons, setMap]
    simp only [tombOdd_one, if_true, List.isEmpty_cons, Bool.false_eq_true, if_false]
    exact ih _ hks

/-- an entry of the new map that `DiffPoints` emits a point for: new, or not Go-equal to the old one -/
def chgM (N : Num) (k : SKind) (bkv : List KV) (kv : KV) : Bool :=
  match bkv.find? (fun x => x.1 == kv.1) with
  | some x => !sEq N k kv.2 x.2
  | none => true

theorem chgM_eq (bkv : List KV) (key : Bytes) (v : SVal) :
    chgM N k bkv (key, v) = match lk bkv key with | some w => !sEq N k v w | none => true := by
  unfold chgM lk
  cases bkv.find? fun x => x.1 == key <;> rfl

def deadKeys (bkv akv : List KV) : List Bytes := (bkv.filter fun x => !akv.any fun kv => kv.1 == x.1).map (·.1)

theorem mem_deadKeys (bkv akv : List KV) (key : Bytes) :
    key ∈ deadKeys bkv akv ↔ key ∈ bkv.map (·.1) ∧ key ∉ akv.map (·.1) := by
  simp only [deadKeys, List.mem_map, List.mem_filter, Bool.not_eq_true', List.any_eq_false, beq_iff_eq]
  constructor
  · rintro ⟨x, ⟨hx, hn⟩, rfl⟩
    exact ⟨⟨x, hx, rfl⟩, fun ⟨kv, hkv, hk⟩ => hn kv hkv hk⟩
  · rintro ⟨⟨x, hx, rfl⟩, hn⟩
    exact ⟨x, ⟨hx, fun kv hkv hk => hn ⟨kv, hkv, hk⟩⟩, rfl⟩

/-- the points of `DiffPoints` for a map field -/
def mapPts (N : Num) (pt : Bytes) (k : SKind) (bkv akv : List KV) : List Point :=
  (akv.filter (chgM N k bkv)).map (kvPt N pt k) ++ tombPts pt (deadKeys bkv akv)

def mergeM (N : Num) (k : SKind) (bkv akv : List KV) : List KV :=
  delAll (setAll bkv (akv.filter (chgM N k bkv))) (deadKeys bkv akv)

theorem encMap_ok (kvs : List KV) (hok : ∀ kv ∈ kvs, SOk k kv.2) : encMap N pt k kvs = .ok (kvs.map (kvPt N pt k)) := by
  induction kvs with
  | nil => rfl
  | cons kv kvs ih =>
    obtain ⟨hok1, hok⟩ := List.forall_mem_cons.mp hok
    simp only [encMap, keyed_ok kv.1 kv.2 hok1, ih hok]
    rfl

/-- encoding a map is its diff against the empty map -/
theorem encodeField_map (kvs : List KV) (hl : kvs.length ≤ maxStructureSize) (hok : ∀ kv ∈ kvs, SOk k kv.2) :
    encodeField N pt (.map k) (.map kvs) = .ok (mapPts N pt k [] kvs) := by
  unfold encodeField
  dsimp only
  rw [if_neg (Nat.not_lt.mpr hl), encMap_ok kvs hok, mapPts, List.filter_eq_self (p := chgM N k []) |>.mpr fun _ _ => rfl,
    deadKeys, List.filter_nil, List.map_nil]
  exact congrArg Res.ok (List.append_nil _).symm

theorem diffField_map (bkv akv : List KV) (hla : akv.length ≤ maxStructureSize)
    (ha : ∀ kv ∈ akv, kv.1 ≠ [] ∧ SOk k kv.2) (hb : ∀ kv ∈ bkv, kv.1 ≠ []) :
    diffField N pt (.map k) (.map bkv) (.map akv) = .ok (mapPts N pt k bkv akv) := by
  unfold diffField
  dsimp only
  rw [if_neg (Nat.not_lt.mpr hla),
    mapM'_ok _ (kvPt N pt k) _ fun kv hkv => keyed_ok _ _ (ha kv (List.mem_filter.mp hkv).1).2]
  dsimp only
  -- no key is empty: `addNorm` leaves the points alone
  rw [List.map_map,
    List.map_congr_left (f := addNorm ∘ kvPt N pt k) (g := kvPt N pt k) fun kv h =>
      addNorm_eq_self _ (ha kv (List.mem_filter.mp h).1).1,
    List.map_congr_left fun x hx => addNorm_eq_self _ (hb x (List.mem_filter.mp hx).1)]
  simp only [mapPts, tombPts, deadKeys, List.map_map]
  rfl

theorem mapPts_type (bkv akv : List KV) : ∀ p ∈ mapPts N pt k bkv akv, p.type = pt := by
  intro p hp
  rcases List.mem_append.mp hp with hp | hp
  · obtain ⟨_, _, rfl⟩ := List.mem_map.mp hp
    rfl
  · exact tombPts_type _ p hp

theorem mergeField_map (hN : NumLaws N) (bkv akv : List KV) (hla : akv.length ≤ maxStructureSize)
    (ha : ∀ kv ∈ akv, kv.1 ≠ [] ∧ SOk k kv.2) (hb : ∀ kv ∈ bkv, kv.1 ≠ []) :
    mergeField N (.map k) (.map bkv) (mapPts N pt k bkv akv) = (.map (mergeM N k bkv akv), .ok) := by
  refine mergeField_of_setValue trivial nofun ?_
  have hsub : ∀ kv ∈ akv.filter (chgM N k bkv), kv ∈ akv := fun kv h => (List.mem_filter.mp h).1
  -- only the live points count towards the size limit, and there are no more of them than entries in the new map
  have hlive : ¬((mapPts N pt k bkv akv).filter fun p => !tombOdd p.tomb).length > maxStructureSize := by
    have hdead : (tombPts pt (deadKeys bkv akv)).filter (fun p => !tombOdd p.tomb) = [] := by
      rw [List.filter_eq_nil_iff]
      intro p hp
      obtain ⟨_, _, rfl⟩ := List.mem_map.mp hp
      exact Bool.false_ne_true
    rw [mapPts, List.filter_append, hdead, List.append_nil]
    refine Nat.not_lt.mpr (Nat.le_trans (List.length_filter_le ..) ?_)
    rw [List.length_map]
    exact Nat.le_trans (List.length_filter_le ..) hla
  have hkeys : ∀ key ∈ deadKeys bkv akv, key ≠ [] := by
    intro key h
    obtain ⟨x, hx, rfl⟩ := List.mem_map.mp ((mem_deadKeys bkv akv key).mp h).1
    exact hb x hx
  rw [setValue_map, group_points, if_neg hlive, mapPts,
    setMap_live hN _ _ _ (fun kv h => (ha kv (hsub kv h)).2) (fun kv h => (ha kv (hsub kv h)).1), setMap_dead _ _ hkeys]
  rfl

theorem mergeM_nil (kvs : List KV) (hnd : (kvs.map (·.1)).Nodup) : mergeM N k [] kvs = kvs := by
  rw [mergeM, List.filter_eq_self (p := chgM N k []) |>.mpr fun _ _ => rfl]
  exact setAll_fresh kvs [] hnd

theorem lk_mergeM (bkv akv : List KV) (key : Bytes) (hnd : (akv.map (·.1)).Nodup) :
    lk (mergeM N k bkv akv) key = match lk akv key, lk bkv key with
      | none, _ => none
      | some v, some w => if sEq N k v w then some w else some v
      | some v, none => some v := by
  rw [mergeM, lk_delAll, lk_setAll _ _ _ (keys_filter akv _ hnd), lk_filter _ _ _ hnd]
  cases ha : lk akv key with
  | none =>
    have hna := (lk_eq_none_iff akv key).mp ha
    by_cases hb : key ∈ bkv.map (·.1)
    · rw [if_pos ((mem_deadKeys ..).mpr ⟨hb, hna⟩)]
    · rw [if_neg fun h => hb ((mem_deadKeys ..).mp h).1, (lk_eq_none_iff bkv key).mpr hb]; rfl
  | some v =>
    rw [if_neg fun h => ((mem_deadKeys ..).mp h).2 (List.mem_map_of_mem (f := (·.1)) (lk_some_mem akv key v ha)),
      Option.filter_some, chgM_eq]
    cases lk bkv key with
    | none => rfl
    | some w =>
      cases h : sEq N k v w <;> simp [h]

end Siot.Config
