import Siot.Lemmas.ConfigGroup
import Siot.Lemmas.ConfigScalar
/-
One field of `Decode`: `mergeField` is what `decodeFields` does to a field given its own points among the node's — nothing if
there are none, else `SetValue` on their group, which on the empty group changes nothing. The same for one `child` field.
-/
namespace Siot.Config
open Siot

variable {N : Num} {k : SKind}

def mergeField (N : Num) (ty : FieldTy) (cur : FVal) (ps : List Point) : FVal × Status :=
  if ps.isEmpty then (cur, .ok) else setValue N (ps.foldl groupStep {}) ty cur

theorem mergeField_cons (ty : FieldTy) (cur : FVal) (p : Point) (ps : List Point) :
    mergeField N ty cur (p :: ps) = setValue N ((p :: ps).foldl groupStep {}) ty cur := rfl

theorem decodeFields_cons_ok (ne : NodeEdge) (f : Field) (fs : List Field) (x x' : FVal) (xs : List FVal) (l : List Point)
    (hf : (if f.edge then ne.edgePoints else ne.points).filter (fun p => p.type == f.ptype) = l)
    (h : mergeField N f.ty x l = (x', .ok)) :
    decodeFields N ne (f :: fs) (x :: xs) = (x' :: (decodeFields N ne fs xs).1, (decodeFields N ne fs xs).2) := by
  rw [decodeFields, group_eq, hf]
  cases l with
  | nil => cases h; rfl
  | cons p l =>
    rw [mergeField_cons] at h
    dsimp only [List.isEmpty_cons]
    rw [if_neg Bool.false_ne_true]
    dsimp only
    rw [h]
    rfl

theorem decodeKidField_ok (N : Num) (cf : ChildField) (all : List (Bytes × NodeEdge)) (nes : List NodeEdge) (ks : List Val)
    (hfil : all.filter (fun c => c.1 == cf.ctype) = nes.map fun ne => (cf.ctype, ne))
    (hdec : nes.map (fun ne => decode N cf.ty ne (zero cf.ty)) = ks.map fun k => ({ val := k, err := false, panic := none } : DecodeOut)) :
    decodeKidField N cf all [] = (ks, false, none) := by
  unfold decodeKidField
  rw [hfil]
  cases nes with
  | nil => cases ks <;> first | rfl | cases hdec
  | cons ne nes =>
    rw [if_neg (by exact Bool.false_ne_true), List.map_map]
    simp [Function.comp_def, hdec]

theorem setStruct_nil (fs : Fields) (vs : List SVal) (h : fs.length = vs.length) :
    setStruct N [] fs vs = (vs, .ok) := by
  induction fs generalizing vs with
  | nil => rfl
  | cons f fs ih =>
    cases vs with
    | nil => cases h
    | cons v vs => simp only [setStruct, List.reverse_nil, List.find?_nil, ih vs (Nat.succ.inj h)]

theorem sortInts_nil : sortInts [] = [] := rfl

theorem trimLen_nil (n : Nat) : trimLen [] n = n := by
  simp [trimLen, sortInts]

/-- `hp`: on the empty group a nil pointer to a struct is allocated, and one to the empty struct freed -/
theorem setValue_empty (ty : FieldTy) (cur : FVal) (ht : FTyped ty cur)
    (hp : ∀ fs, ty = .ptrStruct fs → fs ≠ [] ∧ cur ≠ .ptrStruct none) : setValue N {} ty cur = (cur, .ok) := by
  cases ty <;> cases cur <;> try exact ht.elim
  case slice.slice k vs =>
    rw [setValue_slice]
    simp [setIndexed, trimLen_nil]
  case array.array n k vs =>
    rw [setValue_array, if_neg (by decide), if_neg (by decide), if_neg (show ¬(-1 : Int) > (n : Int) - 1 by omega)]
    rfl
  case struct.struct fs vs => simp only [setValue, setStruct_nil fs vs ht]
  case ptrStruct.ptrStruct fs vo =>
    obtain ⟨hne, hc⟩ := hp fs rfl
    cases vo with
    | none => exact absurd rfl hc
    | some vs =>
      rw [setValue_ptrStruct, if_neg]
      · show (FVal.ptrStruct (some (setStruct N [] fs vs).1), (setStruct N [] fs vs).2) = _
        rw [setStruct_nil fs vs ht]
      · cases fs with
        | nil => exact absurd rfl hne
        | cons => exact Bool.false_ne_true
  all_goals rfl

theorem mergeField_of_setValue {N : Num} {ty : FieldTy} {cur r : FVal} {ps : List Point} (ht : FTyped ty cur)
    (hp : ∀ fs, ty = .ptrStruct fs → fs ≠ [] ∧ cur ≠ .ptrStruct none)
    (h : setValue N (ps.foldl groupStep {}) ty cur = (r, .ok)) : mergeField N ty cur ps = (r, .ok) := by
  cases ps with
  | nil => exact (setValue_empty ty cur ht hp).symm.trans h
  | cons => exact h

theorem mergeField_scalar (p : Point) (cur v : SVal) (h : setScalar N k p = .ok v) :
    mergeField N (.scalar k) (.scalar cur) [p] = (.scalar v, .ok) := by
  simp only [mergeField_cons, setValue, List.foldl_cons, List.foldl_nil, groupStep_points, List.nil_append, setScalars, h]

theorem mergeField_ptr (p : Point) (cur : Option SVal) (v : SVal) (h : setScalar N k p = .ok v) :
    mergeField N (.ptr k) (.ptr cur) [p] = (.ptr (if tombOdd p.tomb then none else some v), .ok) := by
  simp only [mergeField_cons, setValue, List.foldl_cons, List.foldl_nil, groupStep_points, List.nil_append, setPtrs, h]
  split <;> rfl

end Siot.Config
