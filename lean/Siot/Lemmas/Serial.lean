import Siot.Model.Serial
/-
`SerialDecode` read in both directions: what a packet it accepts looks like, and what it returns on a `log` frame and on a
frame with the right trailer. `bytes.Trim` is `dropWhileZero` from both ends.
-/
namespace Siot.Serial
open Siot Siot.Crc16

/-- the 16 bytes after the sequence number, where `SerialDecode` reads the subject -/
def field (d : Bytes) : Bytes := (d.drop 1).take 16

theorem decode_ok_inv {d : Bytes} {r : Decoded} (h : decode d = .ok r) :
    r.subject = trimNul (field d) ∧
      (r.subject ≠ logSubject → ∃ body lo hi, d = body ++ [lo, hi] ∧ ofLe16 lo hi = crc body) := by
  cases d with
  | nil => cases h
  | cons seq rest =>
    rw [decode] at h
    -- one `by_cases` per test, in the order of `SerialDecode`: `split at h` goes for the inner `match` first
    by_cases h1 : (seq :: rest).length < 1 + 16
    · rw [if_pos h1] at h; cases h
    rw [if_neg h1] at h
    by_cases h2 : trimNul (rest.take 16) = logSubject
    · rw [if_pos h2] at h; cases h; exact ⟨rfl, fun hne => absurd h2 hne⟩
    rw [if_neg h2] at h
    by_cases h3 : (seq :: rest).length < 1 + 2 + 16
    · rw [if_pos h3] at h; cases h
    rw [if_neg h3] at h
    split at h
    next lo hi hdrop =>
      dsimp only at h
      split at h
      next hcrc =>
        cases h
        exact ⟨rfl, fun _ => ⟨_, lo, hi, by rw [← hdrop, List.take_append_drop], hcrc⟩⟩
      next => cases h
    next => cases h

theorem decode_log (seq : UInt8) (F rest : Bytes) (hF : F.length = 16) (hlog : trimNul F = logSubject) :
    decode (seq :: (F ++ rest)) = .ok ⟨seq, trimNul F, rest⟩ := by
  have h17 : ¬ (seq :: (F ++ rest)).length < 1 + 16 := by
    rw [List.length_cons, List.length_append, hF]; omega
  rw [decode, if_neg h17, List.take_left' hF, List.drop_left' hF, if_pos hlog]

theorem decode_crc (seq : UInt8) (F payload : Bytes) (lo hi : UInt8) (hF : F.length = 16)
    (hlog : trimNul F ≠ logSubject) (hc : ofLe16 lo hi = crc (seq :: (F ++ payload))) :
    decode (seq :: (F ++ payload) ++ [lo, hi]) = .ok ⟨seq, trimNul F, payload⟩ := by
  have hb : (seq :: (F ++ payload)).length = payload.length + 19 - 2 := by
    rw [List.length_cons, List.length_append, hF]; omega
  have hl : (seq :: (F ++ payload) ++ [lo, hi]).length = payload.length + 19 := by
    rw [List.length_append, hb]; rfl
  have hd : seq :: (F ++ payload) ++ [lo, hi] = seq :: (F ++ (payload ++ [lo, hi])) := by
    rw [List.cons_append, List.append_assoc]
  rw [hd, decode, ← hd, hl, if_neg (by omega), List.take_left' hF, if_neg hlog, if_neg (by omega),
    List.take_left' hb, List.drop_left' hb]
  dsimp only
  rw [if_pos hc, List.drop_left' hF, Nat.add_sub_cancel, List.take_left' rfl]

theorem padSubject_length (sub : Bytes) (h : sub.length ≤ 16) : (padSubject sub).length = 16 := by
  rw [padSubject, List.length_append, List.length_replicate, subjectWidth]; omega

theorem dropWhileZero_replicate (n : Nat) (t : Bytes) : dropWhileZero (List.replicate n 0 ++ t) = dropWhileZero t := by
  induction n with
  | zero => rfl
  | succ n ih => rw [List.replicate_succ, List.cons_append, dropWhileZero, if_pos rfl, ih]

theorem dropWhileZero_spec (l : Bytes) :
    (∃ a, l = List.replicate a 0 ++ dropWhileZero l) ∧ (dropWhileZero l).head? ≠ some 0 := by
  induction l with
  | nil => exact ⟨⟨0, rfl⟩, nofun⟩
  | cons x xs ih =>
    rw [dropWhileZero]
    split
    · obtain ⟨⟨a, ha⟩, h⟩ := ih
      exact ⟨⟨a + 1, by rw [List.replicate_succ, List.cons_append, ← ha, ‹x = 0›]⟩, h⟩
    · exact ⟨⟨0, rfl⟩, fun h => ‹x ≠ 0› (Option.some.inj h)⟩

theorem dropWhileZero_nonzero_head (a t : Bytes) (h : dropWhileZero a = a) (hne : a ≠ []) :
    dropWhileZero (a ++ t) = a ++ t := by
  cases a with
  | nil => exact absurd rfl hne
  | cons x xs =>
    have hx : x ≠ 0 := fun hx => (dropWhileZero_spec (x :: xs)).2 (by rw [h, hx]; rfl)
    rw [List.cons_append, dropWhileZero, if_neg hx]

theorem trim_split (X : Bytes) : ∃ a b, X = List.replicate a 0 ++ trimNul X ++ List.replicate b 0 := by
  obtain ⟨a, ha⟩ := (dropWhileZero_spec X).1
  obtain ⟨b, hb⟩ := (dropWhileZero_spec (dropWhileZero X).reverse).1
  refine ⟨a, b, ?_⟩
  rw [List.append_assoc, trimNul, ← List.reverse_replicate (n := b), ← List.reverse_append, ← hb, List.reverse_reverse]
  exact ha

/-- no NUL at either end: what `bytes.Trim` leaves as it is -/
def NulSafe (sub : Bytes) : Prop := dropWhileZero sub = sub ∧ dropWhileZero sub.reverse = sub.reverse

instance (sub : Bytes) : Decidable (NulSafe sub) := by unfold NulSafe; infer_instance

theorem trimNul_pad (sub : Bytes) (h : NulSafe sub) : trimNul (padSubject sub) = sub := by
  by_cases hne : sub = []
  · subst hne; rfl
  · rw [trimNul, padSubject, dropWhileZero_nonzero_head sub _ h.1 hne, List.reverse_append, List.reverse_replicate,
      dropWhileZero_replicate, h.2, List.reverse_reverse]

end Siot.Serial
