import Siot.Model.Config
/-
The group of a point type, as `Decode` builds it: `groupStep` is one step of the fold in `group`, `GInv` what the fold
guarantees of `keyNotIndex` and `keyMaxInt`. Also what the files on both sides (C10, C11) share: what `SetValue` is on a slice,
an array, a map and a pointer to a struct (`setValue_slice` …), and `FTyped`.
-/
namespace Siot.Config
open Siot

abbrev KV := Bytes × SVal
/-- the type of a flat struct: key and kind of every field -/
abbrev Fields := List (Bytes × SKind)

/-- the index Go computes for a point's key while grouping -/
def keyIdx (p : Point) : Option Int := if p.key.isEmpty then some 0 else atoi p.key

theorem keyIdx_of_key_nil (p : Point) (h : p.key = []) : keyIdx p = some 0 := by
  unfold keyIdx; rw [h]; rfl

theorem indexOf_of_keyIdx (p : Point) (i : Int) (h : keyIdx p = some i) : indexOf p.key = i := by
  unfold keyIdx at h
  unfold indexOf
  split at h
  · next he =>
    cases h
    rw [List.isEmpty_iff.mp he]; rfl
  · rw [h]; rfl

def groupStep (g : Group) (p : Point) : Group :=
  let g := match keyIdx p with
    | some i => if i < 0 then { g with keyNotIndex := p.key }
                else if i > g.keyMaxInt ∧ !tombOdd p.tomb then { g with keyMaxInt := i } else g
    | none => { g with keyNotIndex := p.key }
  { g with points := g.points ++ [p] }

theorem group_eq (ptype : Bytes) (ps : List Point) :
    group ptype ps = if (ps.filter (fun p => p.type == ptype)).isEmpty then none
      else some ((ps.filter (fun p => p.type == ptype)).foldl groupStep {}) := rfl

theorem groupStep_points (g : Group) (p : Point) : (groupStep g p).points = g.points ++ [p] := by
  unfold groupStep
  split
  · split
    · rfl
    · split <;> rfl
  · rfl

theorem foldl_groupStep_points (ps : List Point) (g : Group) : (ps.foldl groupStep g).points = g.points ++ ps := by
  induction ps generalizing g with
  | nil => simp
  | cons p ps ih => rw [List.foldl_cons, ih, groupStep_points, List.append_assoc]; rfl

theorem group_points (ps : List Point) : (ps.foldl groupStep {}).points = ps :=
  (foldl_groupStep_points ps {}).trans (List.nil_append ps)

/-- the key of `p` is an index, not negative, and at most `hi` if the point is live -/
def IndexUpTo (hi : Int) (p : Point) : Prop := ∃ i, keyIdx p = some i ∧ 0 ≤ i ∧ (tombOdd p.tomb = false → i ≤ hi)

/-- what keeps the indexed loop of `SetValue` inside the slice it grew (`idx`: every point is `IndexUpTo g.keyMaxInt`) -/
structure GInv (g : Group) : Prop where
  idx : g.keyNotIndex = [] → ∀ p ∈ g.points, ∃ i, keyIdx p = some i ∧ 0 ≤ i ∧ (tombOdd p.tomb = false → i ≤ g.keyMaxInt)
  low : -1 ≤ g.keyMaxInt

theorem gInv_empty : GInv ({} : Group) := ⟨fun _ _ hp => absurd hp List.not_mem_nil, by decide⟩

theorem groupStep_inv (g : Group) (p : Point) (h : GInv g) : GInv (groupStep g p) := by
  -- a key that is no index, or a negative one, is not empty: the invariant then claims nothing about the points
  have bad : p.key ≠ [] → GInv { g with keyNotIndex := p.key, points := g.points ++ [p] } :=
    fun hne => ⟨fun hk => absurd hk hne, h.low⟩
  have good : ∀ i m, keyIdx p = some i → 0 ≤ i → g.keyMaxInt ≤ m → (tombOdd p.tomb = false → i ≤ m) →
      GInv { g with keyMaxInt := m, points := g.points ++ [p] } := by
    refine fun i m hk h0 hm hle => ⟨fun hne q hq => ?_, Int.le_trans h.low hm⟩
    rcases List.mem_append.mp hq with hq | hq
    · obtain ⟨j, hj, hj0, hjm⟩ := h.idx hne q hq
      exact ⟨j, hj, hj0, fun ht => Int.le_trans (hjm ht) hm⟩
    · cases List.mem_singleton.mp hq
      exact ⟨i, hk, h0, hle⟩
  unfold groupStep
  split
  · next i hk =>
    split
    · exact bad fun h0 => by rw [keyIdx_of_key_nil p h0] at hk; cases hk; omega
    · next h0 =>
      split
      · next hc => exact good i i hk (Int.not_lt.mp h0) (Int.le_of_lt hc.1) (fun _ => Int.le_refl i)
      · next hc =>
        -- `keyMaxInt` stays: the point is a tombstone, or its index is not above it
        refine good i _ hk (Int.not_lt.mp h0) (Int.le_refl _) fun ht => Int.not_lt.mp fun hgt => hc ⟨hgt, ?_⟩
        rw [ht]
        rfl
  · next hk => exact bad fun h0 => by rw [keyIdx_of_key_nil p h0] at hk; cases hk

theorem foldl_groupStep_inv (ps : List Point) (g : Group) (h : GInv g) : GInv (ps.foldl groupStep g) :=
  List.foldlRecOn ps groupStep h fun g h p _ => groupStep_inv g p h

theorem group_inv (ptype : Bytes) (ps : List Point) (g : Group) (h : group ptype ps = some g) : GInv g := by
  rw [group_eq] at h
  split at h
  · cases h
  · cases h
    exact foldl_groupStep_inv _ {} gInv_empty

/-- points whose keys are all indexes leave `keyNotIndex` alone, and `keyMaxInt` below any bound on the live ones -/
theorem foldl_groupStep_bounds (hi : Int) : ∀ (ps : List Point) (g : Group), g.keyNotIndex = [] → g.keyMaxInt ≤ hi →
    (∀ p ∈ ps, IndexUpTo hi p) → (ps.foldl groupStep g).keyNotIndex = [] ∧ (ps.foldl groupStep g).keyMaxInt ≤ hi
  | [], _, h1, h2, _ => ⟨h1, h2⟩
  | p :: ps, g, h1, h2, h => by
    obtain ⟨⟨j, hj, h0, hle⟩, h⟩ := List.forall_mem_cons.mp h
    have hs : (groupStep g p).keyNotIndex = g.keyNotIndex ∧ (groupStep g p).keyMaxInt ≤ hi := by
      simp only [groupStep, hj]
      rw [if_neg (Int.not_lt.mpr h0)]
      split
      · next hc => exact ⟨rfl, hle (by simpa using hc.2)⟩
      · exact ⟨rfl, h2⟩
    exact foldl_groupStep_bounds hi ps _ (hs.1.trans h1) hs.2 h

/-- a live point with index `j` pushes `keyMaxInt` to at least `j` -/
theorem foldl_groupStep_lower (ps : List Point) (g : Group) (hg : GInv g) (p : Point) (j : Int) (hp : p ∈ ps)
    (hj : keyIdx p = some j) (hl : tombOdd p.tomb = false) (hk : (ps.foldl groupStep g).keyNotIndex = []) :
    j ≤ (ps.foldl groupStep g).keyMaxInt := by
  obtain ⟨i, hi, _, hle⟩ := (foldl_groupStep_inv ps g hg).idx hk p
    (foldl_groupStep_points ps g ▸ List.mem_append_right _ hp)
  cases hj.symm.trans hi
  exact hle hl

/-! ### `SetValue` on the container kinds -/
variable {N : Num} {k : SKind}

/-- past its two checks `SetValue` grows the slice to hold `keyMaxInt`, runs the indexed loop and, if that went well, trims
    trailing tombstones -/
theorem setValue_slice (g : Group) (vs : List SVal) :
    setValue N g (.slice k) (.slice vs) =
      if !g.keyNotIndex.isEmpty then (.slice vs, .err)
      else if g.keyMaxInt > maxStructureSize then (.slice vs, .err)
      else match setIndexed N k g.points (vs ++ List.replicate ((g.keyMaxInt + 1).toNat - vs.length) (zeroS k)) [] with
        | (vs', del, .ok) => (.slice (vs'.take (trimLen del vs'.length)), .ok)
        | (vs', _, st) => (.slice vs', st) := by
  -- where `keyMaxInt` is inside the slice nothing is appended
  have hgrow : (if g.keyMaxInt > (vs.length : Int) - 1 then vs ++ List.replicate ((g.keyMaxInt + 1).toNat - vs.length) (zeroS k)
      else vs) = vs ++ List.replicate ((g.keyMaxInt + 1).toNat - vs.length) (zeroS k) := by
    split
    · rfl
    · rw [show (g.keyMaxInt + 1).toNat - vs.length = 0 by omega]
      exact (List.append_nil vs).symm
  rw [← hgrow]
  rfl

theorem setValue_array (g : Group) (n : Nat) (vs : List SVal) :
    setValue N g (.array n k) (.array vs) =
      if !g.keyNotIndex.isEmpty then (.array vs, .err)
      else if g.keyMaxInt > maxStructureSize then (.array vs, .err)
      else if g.keyMaxInt > (n : Int) - 1 then (.array vs, .err)
      else (.array (setIndexed N k g.points vs []).1, (setIndexed N k g.points vs []).2.2) := rfl

theorem setValue_map (g : Group) (kvs : List KV) :
    setValue N g (.map k) (.map kvs) =
      if (g.points.filter (fun p => !tombOdd p.tomb)).length > maxStructureSize then (.map kvs, .err)
      else (.map (setMap N k g.points kvs).1, (setMap N k g.points kvs).2) := rfl

/-- the zero value of a flat struct, as `zeroF` and the `ptrStruct` branch of `SetValue` spell it -/
abbrev zeroVals (fs : Fields) : List SVal := fs.map fun f => zeroS f.2

theorem length_zeroVals (fs : Fields) : fs.length = (zeroVals fs).length := (List.length_map _).symm

/-- the fold of the `ptrStruct` branch over the group's points: a tombstone removes its key from the valid ones, a live point adds it -/
def validStep (acc : List Bytes) (p : Point) : List Bytes :=
  if tombOdd p.tomb then acc.filter (· != p.key) else if acc.contains p.key then acc else acc ++ [p.key]

theorem setValue_ptrStruct (g : Group) (fs : Fields) (v : Option (List SVal)) :
    setValue N g (.ptrStruct fs) (.ptrStruct v) =
      if (g.points.foldl validStep (fs.map (·.1))).isEmpty then (.ptrStruct none, .ok)
      else (.ptrStruct (some (setStruct N g.points fs (v.getD (zeroVals fs))).1),
        (setStruct N g.points fs (v.getD (zeroVals fs))).2) := rfl

/-- a field value has the shape its type prescribes (what Go's type system guarantees) -/
def FTyped : FieldTy → FVal → Prop
  | .scalar _, .scalar _ => True
  | .ptr _, .ptr _ => True
  | .slice _, .slice _ => True
  | .array n _, .array vs => vs.length = n
  | .map _, .map _ => True
  | .struct fs, .struct vs => fs.length = vs.length
  | .ptrStruct fs, .ptrStruct (some vs) => fs.length = vs.length
  | .ptrStruct _, .ptrStruct none => True
  | _, _ => False

end Siot.Config
