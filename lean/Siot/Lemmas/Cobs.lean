import Siot.Model.Cobs
/-
Round trip of the codec. `decLoop (n + 1) n` is the decoder's position "the next byte is a code byte, the
code before it was `n + 1`". From there it reads the blocks of one zero-free run (`encRun_dec`) and of all runs
(`runs_dec`); the start of a frame is the same position after a full block (`decStart_zero`).
-/
namespace Siot.Cobs
open Siot

/-- `UInt8.ofNat (k + 1)` is the code byte of a block of `k` data bytes -/
theorem code_toNat {k : Nat} (h : k < 255) : (UInt8.ofNat (k + 1)).toNat = k + 1 :=
  UInt8.toNat_ofNat_of_lt' (Nat.succ_lt_succ h)

theorem code_ne_zero {k : Nat} (h : k < 255) : UInt8.ofNat (k + 1) ≠ 0 :=
  fun hz => Nat.succ_ne_zero k ((code_toNat h).symm.trans (congrArg UInt8.toNat hz))

/-- zero-free: no byte of `l` is the delimiter -/
def ZF (l : Bytes) : Prop := ∀ b ∈ l, b ≠ 0

theorem zf_nil : ZF [] := fun _ h => nomatch h

theorem zf_cons {b : UInt8} {l : Bytes} : ZF (b :: l) ↔ b ≠ 0 ∧ ZF l := List.forall_mem_cons

theorem zf_append {a b : Bytes} : ZF (a ++ b) ↔ ZF a ∧ ZF b := List.forall_mem_append

theorem zf_take_drop {l : Bytes} (h : ZF l) (n : Nat) : ZF (l.take n) ∧ ZF (l.drop n) :=
  zf_append.1 (by rwa [List.take_append_drop])

theorem splitZ_cons (b : UInt8) (rest : Bytes) : splitZ (b :: rest) =
    if b = 0 then ([], (splitZ rest).1 :: (splitZ rest).2) else (b :: (splitZ rest).1, (splitZ rest).2) := rfl

theorem splitZ_join (p : Bytes) : (splitZ p).1 ++ (splitZ p).2.flatMap (fun x => 0 :: x) = p := by
  induction p with
  | nil => rfl
  | cons b rest ih =>
    rw [splitZ_cons]
    split
    · next h => exact h ▸ congrArg (0 :: ·) ih
    · exact congrArg (b :: ·) ih

theorem splitZ_zf (p : Bytes) : ZF (splitZ p).1 ∧ ∀ r ∈ (splitZ p).2, ZF r := by
  induction p with
  | nil => exact ⟨zf_nil, fun _ h => nomatch h⟩
  | cons b rest ih =>
    rw [splitZ_cons]
    split
    · exact ⟨zf_nil, List.forall_mem_cons.2 ih⟩
    · next h => exact ⟨zf_cons.2 ⟨h, ih.1⟩, ih.2⟩

/-- the separator the decoder emits at a code byte when the previous code was `prev` -/
def zsep (prev : Nat) : Bytes := if prev ≠ 255 then [0] else []

theorem decLoop_cons (off iOff : Nat) (out : Bytes) (b : UInt8) (rest : Bytes) :
    decLoop off iOff out (b :: rest) =
      if (iOff + 1) % 256 = off then
        if b = 0 then .ok out else decLoop b.toNat 0 (out ++ zsep off) rest
      else
        if b = 0 then .err "decode" else decLoop off ((iOff + 1) % 256) (out ++ [b]) rest := by
  rw [zsep, apply_ite (out ++ ·), List.append_nil]; rfl

theorem decLoop_at {n : Nat} (hn : n ≤ 254) (out : Bytes) (c : UInt8) (rest : Bytes) :
    decLoop (n + 1) n out (c :: rest) =
      if c = 0 then .ok out else decLoop c.toNat 0 (out ++ zsep (n + 1)) rest := by
  rw [decLoop_cons, if_pos (Nat.mod_eq_of_lt (Nat.succ_le_succ (Nat.succ_le_succ hn)))]

theorem decLoop_block (off : Nat) (hoff : off ≤ 256) (data : Bytes) (hz : ZF data) (iOff : Nat) (out rest : Bytes)
    (h : data.length + iOff < off) :
    decLoop off iOff out (data ++ rest) = decLoop off (data.length + iOff) (out ++ data) rest := by
  induction data generalizing iOff out with
  | nil => simp
  | cons b data ih =>
    rw [List.length_cons, Nat.succ_add] at h ⊢
    have h1 : iOff + 1 < off := Nat.lt_of_le_of_lt (Nat.le_add_left _ _) h
    rw [List.cons_append, decLoop_cons, Nat.mod_eq_of_lt (Nat.lt_of_lt_of_le h1 hoff), if_neg (Nat.ne_of_lt h1),
      if_neg (zf_cons.1 hz).1, ih (zf_cons.1 hz).2 _ _ h, List.append_assoc]
    rfl

/-- one block, from boundary to boundary: the code byte of `k` data bytes, then the data -/
theorem decLoop_code_block {n k : Nat} (hn : n ≤ 254) (hk : k < 255) {data : Bytes} (hz : ZF data)
    (hl : data.length = k) (out rest : Bytes) :
    decLoop (n + 1) n out (UInt8.ofNat (k + 1) :: (data ++ rest)) =
      decLoop (k + 1) k (out ++ zsep (n + 1) ++ data) rest := by
  subst hl
  rw [decLoop_at hn, if_neg (code_ne_zero hk), code_toNat hk,
    decLoop_block _ (Nat.le_of_lt (Nat.succ_lt_succ hk)) data hz 0 _ _ (Nat.lt_succ_self _)]
  rfl

theorem encRun_dec (r : Bytes) (hz : ZF r) (n : Nat) (out rest : Bytes) (hn : n ≤ 254) :
    decLoop (n + 1) n out (encRun r ++ rest) =
      decLoop (r.length % 254 + 1) (r.length % 254) (out ++ zsep (n + 1) ++ r) rest := by
  induction r using encRun.induct generalizing n out with
  | case1 ch hlen ih =>
    have hz' := zf_take_drop hz 254
    have hl : (ch.take 254).length = 254 := by rw [List.length_take]; exact Nat.min_eq_left hlen
    have hm : (ch.drop 254).length % 254 = ch.length % 254 := by
      rw [List.length_drop]; exact (Nat.mod_eq_sub_mod hlen).symm
    rw [encRun, dif_pos hlen, List.cons_append, List.append_assoc]
    -- the full block (code `0xff = 254 + 1`), then the rest of the run; no separator after a full block
    calc decLoop (n + 1) n out (UInt8.ofNat (254 + 1) :: (ch.take 254 ++ (encRun (ch.drop 254) ++ rest)))
      _ = decLoop (254 + 1) 254 (out ++ zsep (n + 1) ++ ch.take 254) (encRun (ch.drop 254) ++ rest) :=
        decLoop_code_block hn (by decide) hz'.1 hl _ _
      _ = decLoop (ch.length % 254 + 1) (ch.length % 254)
            (out ++ zsep (n + 1) ++ ch.take 254 ++ zsep (254 + 1) ++ ch.drop 254) rest := by
        rw [ih hz'.2 254 _ (Nat.le_refl _), hm]
      _ = _ := by
        rw [show zsep (254 + 1) = [] from rfl, List.append_nil, List.append_assoc _ (ch.take 254), List.take_append_drop]
  | case2 ch hlen =>
    have hl : ch.length < 254 := Nat.lt_of_not_le hlen
    rw [encRun, dif_neg hlen, List.cons_append, decLoop_code_block hn (Nat.lt_succ_of_lt hl) hz rfl,
      Nat.mod_eq_of_lt hl]

theorem encRun_head (r : Bytes) : ∃ c t, encRun r = c :: t ∧ c ≠ 0 := by
  rw [encRun]
  split
  · exact ⟨255, _, rfl, by decide⟩
  · next h => exact ⟨_, _, rfl, code_ne_zero (Nat.lt_succ_of_lt (Nat.lt_of_not_le h))⟩

theorem encRun_ne_nil (r : Bytes) : encRun r ≠ [] :=
  let ⟨_, _, h, _⟩ := encRun_head r
  h ▸ List.cons_ne_nil _ _

theorem encRun_zf (r : Bytes) (hz : ZF r) : ZF (encRun r) := by
  induction r using encRun.induct with
  | case1 ch hlen ih =>
    rw [encRun, dif_pos hlen]
    exact zf_cons.2 ⟨by decide, zf_append.2 ⟨(zf_take_drop hz 254).1, ih (zf_take_drop hz 254).2⟩⟩
  | case2 ch hlen =>
    rw [encRun, dif_neg hlen]
    exact zf_cons.2 ⟨code_ne_zero (Nat.lt_succ_of_lt (Nat.lt_of_not_le hlen)), hz⟩

/-- `n < 254`, strictly: after the code `0xff` the decoder emits no separator, and every run here is preceded by a zero
    of the frame. `encRun` ends each run on the code `r.length % 254 + 1 ≤ 254`, a run of 254 bytes on an empty block. -/
theorem runs_dec (rs : List Bytes) (hz : ∀ r ∈ rs, ZF r) (n : Nat) (out : Bytes) (hn : n < 254) :
    decLoop (n + 1) n out (rs.flatMap encRun ++ [0]) = .ok (out ++ rs.flatMap (fun x => 0 :: x)) := by
  induction rs generalizing n out with
  | nil =>
    rw [List.flatMap_nil, List.flatMap_nil, List.append_nil]
    exact (decLoop_at (Nat.le_of_lt hn) out 0 []).trans (if_pos rfl)
  | cons r rs ih =>
    have hz' := List.forall_mem_cons.1 hz
    rw [List.flatMap_cons, List.append_assoc, encRun_dec r hz'.1 n out _ (Nat.le_of_lt hn),
      ih hz'.2 _ _ (Nat.mod_lt _ (by decide)), zsep, if_pos (by omega), List.flatMap_cons]
    simp only [List.append_assoc, List.cons_append, List.nil_append]

/-- the blocks of a frame (its encoding without the terminator) -/
def blocks (p : Bytes) : Bytes := encodeRuns (splitZ p).1 (splitZ p).2

theorem encode_eq (p : Bytes) : encode p = blocks p ++ [0] := rfl

theorem blocks_zf (p : Bytes) : ZF (blocks p) := by
  rw [blocks, encodeRuns, zf_append]
  refine ⟨encRun_zf _ (splitZ_zf p).1, fun b hb => ?_⟩
  obtain ⟨r, hr, hb⟩ := List.mem_flatMap.1 hb
  exact encRun_zf r ((splitZ_zf p).2 r hr) b hb

theorem blocks_ne_nil (p : Bytes) : blocks p ≠ [] := by
  rw [blocks, encodeRuns]; exact fun h => encRun_ne_nil _ (List.append_eq_nil_iff.1 h).1

theorem decStart_zero (l : Bytes) (hne : l ≠ []) (hz : ZF l) (rest : Bytes) :
    decStart (0 :: (l ++ rest)) = decLoop 255 254 [] (l ++ rest) := by
  cases l with
  | nil => exact absurd rfl hne
  | cons c t =>
    rw [List.cons_append, decLoop_at (Nat.le_refl _), if_neg (zf_cons.1 hz).1, decStart, if_pos rfl, decStart,
      if_neg (zf_cons.1 hz).1]; rfl

theorem decStart_blocks (p : Bytes) : decStart (0 :: (blocks p ++ [0])) = .ok p := by
  rw [decStart_zero _ (blocks_ne_nil p) (blocks_zf p), blocks, encodeRuns, List.append_assoc,
    encRun_dec _ (splitZ_zf p).1 254 [] _ (Nat.le_refl _), runs_dec _ (splitZ_zf p).2 _ _ (Nat.mod_lt _ (by decide))]
  exact congrArg _ (splitZ_join p)

end Siot.Cobs
