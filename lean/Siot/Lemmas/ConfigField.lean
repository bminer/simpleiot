import Siot.Lemmas.ConfigIdx
import Siot.Lemmas.ConfigMap
import Siot.Lemmas.ConfigStruct
/-
C10, first half, for one field: `FieldRT` says that `mergeField` of the field's points into the zero value gives the value back.
-/
namespace Siot.Config
open Siot

variable {N : Num} {pt : Bytes} {k : SKind}

def FOk : FieldTy → FVal → Prop
  | .scalar k, .scalar v => SOk k v
  | .ptr _, .ptr none => True
  | .ptr k, .ptr (some v) => SOk k v
  | .slice k, .slice vs => vs.length ≤ 1000 ∧ ∀ v ∈ vs, SOk k v
  | .array n k, .array vs => vs.length = n ∧ n ≤ 1000 ∧ ∀ v ∈ vs, SOk k v
  | .map k, .map kvs => kvs.length ≤ 1000 ∧ (∀ kv ∈ kvs, kv.1 ≠ [] ∧ SOk k kv.2) ∧ (kvs.map (·.1)).Nodup
  | .struct fs, .struct vs => fs.length = vs.length ∧ fs.length ≤ 1000 ∧ (fs.map (·.1)).Nodup ∧ ∀ fv ∈ fs.zip vs, SOk fv.1.2 fv.2
  | .ptrStruct fs, .ptrStruct none => fs.length ≤ 1000
  | .ptrStruct fs, .ptrStruct (some vs) =>
    fs ≠ [] ∧ fs.length = vs.length ∧ fs.length ≤ 1000 ∧ (fs.map (·.1)).Nodup ∧ ∀ fv ∈ fs.zip vs, SOk fv.1.2 fv.2
  | _, _ => False

def FieldRT (N : Num) (ty : FieldTy) (v : FVal) (ps : List Point) : Prop :=
  (ps = [] ∧ v = zeroF ty) ∨ (ps ≠ [] ∧ setValue N (ps.foldl groupStep {}) ty (zeroF ty) = (v, .ok))

theorem fieldRT_iff {N : Num} {ty : FieldTy} {v : FVal} {ps : List Point} :
    FieldRT N ty v ps ↔ mergeField N ty (zeroF ty) ps = (v, .ok) := by
  cases ps <;> simp [FieldRT, mergeField, eq_comm]

theorem field_roundtrip (hN : NumLaws N) (ty : FieldTy) (v : FVal) (h : FOk ty v) :
    ∃ ps, encodeField N pt ty v = .ok ps ∧ (∀ p ∈ ps, p.type = pt) ∧ FieldRT N ty v ps := by
  cases ty <;> cases v <;> try exact h.elim
  case scalar.scalar k x =>
    exact ⟨_, encodeField_scalar x h, List.forall_mem_singleton.mpr rfl,
      fieldRT_iff.mpr (mergeField_scalar _ _ x (setScalar_pointOf hN [] x h))⟩
  case ptr.ptr k xo =>
    cases xo with
    | none =>
      exact ⟨[{ type := pt, tomb := 1 }], rfl, List.forall_mem_singleton.mpr rfl,
        fieldRT_iff.mpr (mergeField_ptr _ _ (zeroS k) rfl)⟩
    | some x =>
      exact ⟨_, encodeField_ptr x h, List.forall_mem_singleton.mpr rfl,
        fieldRT_iff.mpr (mergeField_ptr _ _ x (setScalar_pointOf hN [] x h))⟩
  case slice.slice k vs =>
    exact ⟨_, encodeField_slice vs h.1 h.2, idxPts_type [] vs,
      fieldRT_iff.mpr (mergeField_slice hN [] vs h.1 (Nat.zero_le _) h.2)⟩
  case array.array n k vs =>
    obtain ⟨rfl, hn, hok⟩ := h
    exact ⟨_, encodeField_array _ vs hn hok, idxPts_type [] vs,
      fieldRT_iff.mpr (mergeField_array hN [] _ vs hn List.length_replicate hok)⟩
  case map.map k kvs =>
    obtain ⟨hl, hall, hnd⟩ := h
    have hm := mergeField_map (pt := pt) hN [] kvs hl hall nofun
    rw [mergeM_nil kvs hnd] at hm
    exact ⟨_, encodeField_map kvs hl fun kv hkv => (hall kv hkv).2, mapPts_type [] kvs, fieldRT_iff.mpr hm⟩
  case struct.struct fs vs =>
    obtain ⟨hl, hsz, hnd, hall⟩ := h
    have hm := mergeField_struct (pt := pt) hN selAll fs _ vs hnd (length_zeroVals fs) hl hall
    rw [selVals_all fs _ vs (length_zeroVals fs) hl] at hm
    exact ⟨_, encodeField_struct fs vs hl hsz hall, selPts_type _ fs _ vs, fieldRT_iff.mpr hm⟩
  case ptrStruct.ptrStruct fs vo =>
    cases vo with
    | none =>
      exact ⟨_, encodeField_ptrStruct_nil fs h, tombPts_type _,
        fieldRT_iff.mpr (mergeField_ptrStruct_dead fs none fun _ => rfl)⟩
    | some vs =>
      obtain ⟨hne, hl, hsz, hnd, hall⟩ := h
      exact ⟨_, encodeField_struct fs vs hl hsz hall, selPts_type _ fs _ vs,
        fieldRT_iff.mpr (mergeField_ptrStruct_none hN fs vs hne hnd hl hall)⟩

end Siot.Config
