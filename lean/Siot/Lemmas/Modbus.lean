import Siot.Spec.ModbusSpec
/-
The server model in the specification's terms: the read loops are `allSome` over the addressed range,
the writes are `validatorOf` / `setReg`, the header test is the specification's `fixedLen`.
-/
namespace Siot.Modbus
open Siot Siot.Modbus.Spec

theorem snd_ite {α β : Type} {c : Prop} [Decidable c] {x y : α × β} {b : β} (hx : x.2 = b) (hy : y.2 = b) :
    (if c then x else y).2 = b := by
  split
  · exact hx
  · exact hy

theorem word_lt (hi lo : UInt8) : word hi lo < 65536 := by
  unfold word
  have := UInt8.toNat_lt hi
  have := UInt8.toNat_lt lo
  omega

theorem u8_toNat (n : Nat) (h : n < 256) : (u8 n).toNat = n :=
  UInt8.toNat_ofNat'.trans (Nat.mod_eq_of_lt h)

theorem u8_mod (n : Nat) : u8 (n % 256) = u8 n := by
  unfold u8
  apply UInt8.toNat_inj.mp
  simp [UInt8.toNat_ofNat']

theorem be16_eq : be16 = fun v => [u8 (v / 256), u8 (v % 256)] := by
  funext v; rw [be16, u8_mod]

theorem allSome_append {α : Type} (a : List (Option α)) (x : Option α) :
    allSome (a ++ [x]) = match allSome a, x with
      | some l, some v => some (l ++ [v])
      | _, _ => none := by
  induction a with
  | nil => cases x <;> rfl
  | cons y a ih =>
    cases y with
    | none => rfl
    | some v =>
      simp only [List.cons_append, allSome, ih]
      cases allSome a <;> cases x <;> rfl

theorem allSome_eq_some {α : Type} {l : List (Option α)} {r : List α} (h : allSome l = some r) :
    l = r.map some := by
  induction l generalizing r with
  | nil => cases h; rfl
  | cons x xs ih =>
    cases x with
    | none => cases h
    | some a =>
      obtain ⟨r', hr, rfl⟩ := Option.map_eq_some_iff.mp h
      rw [ih hr]; rfl

theorem allSome_length {α : Type} {l : List (Option α)} {r : List α} (h : allSome l = some r) : r.length = l.length := by
  rw [allSome_eq_some h, List.length_map]

theorem allSome_mem {α : Type} {l : List (Option α)} {r : List α} (h : allSome l = some r) {v : α} (hv : v ∈ r) :
    some v ∈ l :=
  allSome_eq_some h ▸ List.mem_map_of_mem hv

theorem readWords_eq (rs : Regs) (address : Nat) (n : Nat) :
    readWords rs address n = match allSome ((List.range n).map (fun i => readReg rs (address + i))) with
      | none => .error excIllegalAddress
      | some vs => .ok vs := by
  induction n with
  | zero => rfl
  | succ n ih =>
    simp only [readWords, ih, List.range_succ, List.map_append, List.map_cons, List.map_nil, allSome_append]
    cases allSome ((List.range n).map (fun i => readReg rs (address + i))) <;>
      cases readReg rs (address + n) <;> rfl

theorem readBits_eq (rs : Regs) (address : Nat) (n : Nat) :
    readBits rs address n = match allSome ((List.range n).map (fun i => readCoil rs (address + i))) with
      | none => .error excIllegalAddress
      | some vs => .ok vs := by
  induction n with
  | zero => rfl
  | succ n ih =>
    simp only [readBits, ih, List.range_succ, List.map_append, List.map_cons, List.map_nil, allSome_append]
    cases allSome ((List.range n).map (fun i => readCoil rs (address + i))) <;>
      cases readCoil rs (address + n) <;> rfl

theorem writeReg_eq (rs : Regs) (a v : Nat) (ha : a < 65536) :
    writeReg rs a v = match validatorOf rs a with
      | none => .error excIllegalAddress
      | some ok => if ok v then .ok (setReg rs a v) else .error excIllegalValue := by
  induction rs with
  | nil => rfl
  | cons r rs ih =>
    simp only [writeReg, validatorOf, setReg, Nat.mod_eq_of_lt ha]
    by_cases h : r.addr = a
    · simp only [h, if_true]
    · simp only [h, if_false, ih]
      cases validatorOf rs a with
      | none => rfl
      | some ok => dsimp only; cases ok v <;> rfl

theorem readReg_none_iff (rs : Regs) (a : Nat) (ha : a < 65536) :
    readReg rs a = none ↔ validatorOf rs a = none := by
  induction rs with
  | nil => exact ⟨fun _ => rfl, fun _ => rfl⟩
  | cons r rs ih =>
    simp only [readReg, validatorOf, Nat.mod_eq_of_lt ha]
    by_cases h : r.addr = a <;> simp [h, ih]

/-- every stored value is a 16-bit value (Go: `uint16`) -/
def Regs16 (rs : Regs) : Prop := ∀ r ∈ rs, r.val < 65536

theorem readReg_lt (rs : Regs) (h : Regs16 rs) (a v : Nat) (hr : readReg rs a = some v) : v < 65536 := by
  induction rs with
  | nil => cases hr
  | cons r rs ih =>
    rw [Regs16, List.forall_mem_cons] at h
    simp only [readReg] at hr
    split at hr
    · cases hr
      exact h.1
    · exact ih h.2 hr

/-- The body of `statusByte` at any width: a sum of distinct powers of two below `2 ^ n` is the number with
exactly those bits. -/
theorem sum_bits (f : Nat → Bool) (n : Nat) :
    (List.range n).foldl (fun acc k => acc + if f k then 2 ^ k else 0) 0 < 2 ^ n ∧
    ∀ i < n, ((List.range n).foldl (fun acc k => acc + if f k then 2 ^ k else 0) 0).testBit i = f i := by
  induction n with
  | zero => exact ⟨Nat.one_pos, nofun⟩
  | succ n ih =>
    rw [List.range_succ, List.foldl_append, List.foldl_cons, List.foldl_nil, Nat.pow_succ]
    obtain ⟨hlt, hbit⟩ := ih
    cases hf : f n with
    | false =>
      rw [if_neg Bool.false_ne_true, Nat.add_zero]
      refine ⟨by omega, fun i hi => ?_⟩
      rcases Nat.lt_succ_iff_lt_or_eq.mp hi with h | rfl
      · exact hbit i h
      · rw [Nat.testBit_lt_two_pow hlt, hf]
    | true =>
      rw [if_pos rfl]
      refine ⟨by omega, fun i hi => ?_⟩
      rw [Nat.add_comm]
      rcases Nat.lt_succ_iff_lt_or_eq.mp hi with h | rfl
      · rw [Nat.testBit_two_pow_add_gt h, hbit i h]
      · rw [Nat.testBit_two_pow_add_eq, Nat.testBit_lt_two_pow hlt, hf]; rfl

theorem statusByte_spec (bits : List Bool) (j : Nat) :
    statusByte bits j < 256 ∧ ∀ i < 8, (statusByte bits j).testBit i = bits.getD (8 * j + i) false :=
  sum_bits (fun k => bits.getD (8 * j + k) false) 8

theorem statusBytes_length (n : Nat) (bits : List Bool) : (statusBytes n bits).length = n := by
  rw [statusBytes, List.length_map, List.length_range]

theorem statusBytes_getD (n : Nat) (bits : List Bool) (j : Nat) (h : j < n) :
    (statusBytes n bits).getD j 0 = u8 (statusByte bits j) := by
  rw [statusBytes, List.getD_eq_getElem?_getD, List.getElem?_map, List.getElem?_range h]; rfl

theorem byte_bit (x k : Nat) : ((x >>> k) % 2 == 1) = x.testBit k := by
  rw [Nat.testBit_eq_decide_div_mod_eq, Nat.shiftRight_eq_div_pow, Bool.beq_eq_decide_eq]

theorem fixedLen_eq (fc : Nat) : fixedLen fc = minRequestLen fc - 1 := by
  by_cases h : fc < 25
  · -- every code that either table lists is below 25: there the two tables are compared entry by entry
    exact (by decide : ∀ fc < 25, fixedLen fc = minRequestLen fc - 1) fc h
  · -- above, both matches fall through to 0
    obtain ⟨n, rfl⟩ := Nat.exists_eq_add_of_le' (Nat.not_lt.mp h)
    rfl

theorem short_iff (fc : Nat) (data : Bytes) : data.length + 1 < minRequestLen fc ↔ data.length < fixedLen fc := by
  rw [fixedLen_eq]; exact Nat.lt_sub_iff_add_lt.symm

theorem processRequest_short (rs : Regs) (fc : Nat) (data : Bytes) (h : data.length < fixedLen fc) :
    processRequest rs fc data = (.tooShort, rs) :=
  if_pos ((short_iff fc data).mpr h)

theorem respond_short (rs : Regs) (fc : Nat) (data : Bytes)
    (h : data.length < fixedLen fc) : respond rs fc data = ⟨.none, some rs⟩ :=
  if_pos h

theorem not_short (fc : Nat) (data : Bytes) (h : fixedLen fc ≤ data.length) : ¬ data.length + 1 < minRequestLen fc :=
  mt (short_iff fc data).mp (Nat.not_lt.mpr h)

end Siot.Modbus
