import Siot.Lemmas.SyncTree
import Siot.Lemmas.SyncSend
/-
C02, a subtree that the other store does not know. `sendNodes` is `SendNode` over the pre-order list of the live subtree,
stopped by the first failure (`sendList`, `sendNodesAux_eq`: Lemmas/Sync.lean). Here: on a store that knows none of the
ids every record of a list whose ids are new and whose parents come earlier or lie outside arrives; the pre-order list of
a forest is such a list and reaches every node the budget allows.
-/
namespace Siot.Sync
open Siot Siot.Store Siot.Export

def liveK (src : St) : List Sh := (liveEdges src).map shape

/-- but for `tree`, nothing is asked of the store outside the live subtree below `x` -/
structure SrcOk (src : St) (x : Bytes) : Prop where
  tree : TreeK (shapes src)
  rows : ∀ f ∈ src.edges, Below (liveK src) x f.down → Rows (ptsOf src f.down) ∧ Rows (eptsOf src f.up f.down) ∧
    (∀ p ∈ eptsOf src f.up f.down, p.type ≠ nodeTypeT) ∧ f.typ ≠ []
  names : ∀ f ∈ src.edges, Below (liveK src) x f.down → f.down ≠ [] ∧ f.down ≠ rootS ∧ f.down ≠ allS ∧ f.down ≠ noneS

theorem liveK_sub (src : St) : (liveK src).Sublist (shapes src) := (List.filter_sublist).map shape

theorem liveK_tree (src : St) (h : TreeK (shapes src)) : TreeK (liveK src) :=
  ⟨h.rank.imp fun _ hr k hk => hr k ((liveK_sub src).subset hk), h.single.sublist (liveK_sub src)⟩

theorem liveK_mem {src : St} {c : Edge} (h : c ∈ liveEdges src) : shape c ∈ liveK src := List.mem_map_of_mem h

theorem mem_liveK {src : St} {k : Sh} (h : k ∈ liveK src) : ∃ c ∈ liveEdges src, shape c = k := List.mem_map.mp h

theorem below_child {src : St} {x : Bytes} {c : Edge} (hc : c ∈ liveEdges src) (hu : c.up = x) {m : Bytes}
    (h : Below (liveK src) c.down m) : Below (liveK src) x m :=
  (Below.step (liveK_mem hc) (hu ▸ Below.refl _ c.up)).trans h

/-- no id at or below `x` is one of the words `getNodes` reads specially -/
def Plain (src : St) (x : Bytes) : Prop := ∀ m, Below (liveK src) x m → m ≠ rootS ∧ m ≠ allS

theorem Plain.top {src : St} {x : Bytes} (h : Plain src x) : x ≠ rootS ∧ x ≠ allS := h x (.refl _ x)

theorem Plain.child {src : St} {x : Bytes} (h : Plain src x) {c : Edge} (hc : c ∈ liveEdges src) (hu : c.up = x) : Plain src c.down :=
  fun m hm => h m (below_child hc hu hm)

theorem SrcOk.sub {src : St} {e c : Edge} (h : SrcOk src e.down) (hc : c ∈ liveEdges src) (hu : c.up = e.down) : SrcOk src c.down :=
  ⟨h.tree, fun f hf hb => h.rows f hf (below_child hc hu hb), fun f hf hb => h.names f hf (below_child hc hu hb)⟩

theorem belowD_child {src : St} {e c : Edge} (hc : c ∈ liveEdges src) (hu : c.up = e.down) {m : Bytes} {d : Nat}
    (h : BelowD (liveK src) c.down d m) : BelowD (liveK src) e.down (d + 1) m := by
  induction h with
  | refl => exact .step (shape c) 0 (liveK_mem hc) (hu ▸ .refl)
  | step k d hk _ ih => exact .step k (d + 1) hk ih

theorem foldl_sendOne_unknown (wall : Int → Int) : ∀ (l : List NE) (st : St) (clk : Int), (∀ x ∈ l, Sendable x ∧ Fresh st x.id) →
    l.Pairwise NotYetSeen →
    ∃ r c, l.foldl (sendOne wall) ((st, clk), true) = ((r, c), true) ∧
      (∀ x ∈ l, ptsOf r x.id = x.pts ∧ ∃ k, eptsOf r x.parent x.id = sentE x.epts (wall k)) ∧
      ∀ y, (∀ x ∈ l, x.id ≠ y) → Same st r y := by
  intro l
  induction l with
  | nil => exact fun st clk _ _ => ⟨st, clk, rfl, (fun _ h => nomatch h), fun y _ => .refl st y⟩
  | cons x l ih =>
    intro st clk h hord
    rw [List.pairwise_cons] at hord
    obtain ⟨hx_ok, hx_fresh⟩ := h x (List.mem_cons_self ..)
    -- `x` is sent: `st1` is `st` with the node `x.id` added
    obtain ⟨st1, hsent, ha⟩ := sendNode_transfer st x (wall clk) hx_ok hx_fresh
    obtain ⟨r, c, hr, hall, hsame⟩ := ih st1 (clk + 1) (fun y hy =>
      ⟨(h y (List.mem_cons_of_mem _ hy)).1, (h y (List.mem_cons_of_mem _ hy)).2.step (hord.1 y hy).1 (hord.1 y hy).2 ha⟩) hord.2
    refine ⟨r, c, by rw [List.foldl_cons, sendOne_some hsent, hr], fun y hy => ?_, fun y hy => ?_⟩
    · rcases List.mem_cons.mp hy with rfl | hy
      · -- the later records have other ids, so what `y` got stays
        have hs := hsame y.id fun z hz => (hord.1 z hz).1
        exact ⟨by rw [hs.1, ha.pts, if_pos rfl], clk, by rw [hs.2, ha.epts, if_pos rfl]⟩
      · exact hall y hy
    · have hne : y ≠ x.id := Ne.symm (hy x (List.mem_cons_self ..))
      exact Same.trans ⟨by rw [ha.pts, if_neg hne], fun u => by rw [ha.epts, if_neg fun h => hne (Prod.mk.inj h).2]⟩
        (hsame y fun z hz => hy z (List.mem_cons_of_mem _ hz))

theorem mem_sendList (src : St) : ∀ (fuel : Nat) (x : Bytes), Plain src x →
    ∀ y ∈ (getNodes src x allS false).flatMap (sendList src fuel), ∃ c ∈ liveEdges src, y = neOf src c ∧ Below (liveK src) x c.up := by
  intro fuel
  induction fuel with
  | zero => exact fun _ _ y hy => let ⟨_, _, h⟩ := List.mem_flatMap.mp hy; nomatch h
  | succ fuel ih =>
    intro x hn y hy
    rw [getNodes_live src x hn.top.1 hn.top.2] at hy
    obtain ⟨k, hk, hyk⟩ := List.mem_flatMap.mp hy
    obtain ⟨c, hc, rfl⟩ := List.mem_map.mp hk
    obtain ⟨hc, hcu⟩ := mem_filter_up.mp hc
    rcases List.mem_cons.mp hyk with rfl | hyk
    · exact ⟨c, hc, rfl, hcu ▸ .refl _ _⟩
    · obtain ⟨c', hc', rfl, hb⟩ := ih c.down (hn.child hc hcu) y hyk
      exact ⟨c', hc', rfl, below_child hc hcu hb⟩

theorem sendList_below (src : St) (fuel : Nat) (n : NE) (hn : Plain src n.id) (y : NE) (hy : y ∈ sendList src fuel n) :
    Below (liveK src) n.id y.id ∧ (y = n ∨ Below (liveK src) n.id y.parent) := by
  cases fuel with
  | zero => cases hy
  | succ fuel =>
    rcases List.mem_cons.mp hy with rfl | hy
    · exact ⟨.refl _ _, .inl rfl⟩
    · obtain ⟨c, hc, rfl, hb⟩ := mem_sendList src fuel n.id hn y hy
      exact ⟨.step (liveK_mem hc) hb, .inr hb⟩

theorem sendList_pairwise (src : St) (ht : TreeK (liveK src)) : ∀ (fuel : Nat) (n : NE), Plain src n.id →
    ¬ Below (liveK src) n.id n.parent → (sendList src fuel n).Pairwise NotYetSeen := by
  intro fuel
  induction fuel with
  | zero => exact fun _ _ _ => .nil
  | succ fuel ih =>
    intro n hn hp
    refine List.pairwise_cons.mpr ⟨fun y hy => ?_, ?_⟩
    · -- a later record lies strictly below the first
      obtain ⟨c, hc, rfl, hb⟩ := mem_sendList src fuel n.id hn y hy
      refine ⟨fun hid => ?_, fun hpar => ?_⟩
      · rw [neOf_id] at hid
        rw [← hid] at hb
        exact Below.not_up ht (liveK_mem hc) hb
      · rw [neOf_id] at hpar
        rw [← hpar] at hp
        exact hp (.step (liveK_mem hc) hb)
    · rw [getNodes_live src n.id hn.top.1 hn.top.2, List.flatMap_map]
      refine List.pairwise_flatMap.mpr ⟨fun c hc => ?_, ?_⟩
      · obtain ⟨hc, hcu⟩ := mem_filter_up.mp hc
        exact ih (neOf src c) (hn.child hc hcu) (Below.not_up ht (liveK_mem hc))
      · -- two children have disjoint subtrees, and neither subtree holds `n`
        refine (kids_disjoint (l := liveEdges src) rfl ht n.id).imp_of_mem fun {c1 c2} hk1 hk2 hdis a ha b hb => ?_
        obtain ⟨⟨hc1, hu1⟩, hc2, hu2⟩ := mem_filter_up.mp hk1, mem_filter_up.mp hk2
        -- `a` lies below `c1`, and so does its parent unless `a` is the record of `c1`; `b` lies below `c2`
        obtain ⟨ha_below, ha_parent⟩ := sendList_below src fuel (neOf src c1) (hn.child hc1 hu1) a ha
        obtain ⟨hb_below, _⟩ := sendList_below src fuel (neOf src c2) (hn.child hc2 hu2) b hb
        rw [neOf_id] at ha_below ha_parent hb_below
        refine ⟨fun hid => hdis _ ha_below (hid ▸ hb_below), fun hpar => ?_⟩
        rcases ha_parent with rfl | ha_parent
        · rw [neOf_parent, hu1, ← hu2] at hpar
          rw [hpar] at hb_below
          exact Below.not_up ht (liveK_mem hc2) hb_below
        · exact hdis _ ha_parent (hpar ▸ hb_below)

theorem sendList_complete (src : St) : ∀ (fuel : Nat) (n : NE), Plain src n.id →
    ∀ c ∈ liveEdges src, ∀ d, BelowD (liveK src) n.id d c.up → d + 1 < fuel → neOf src c ∈ sendList src fuel n := by
  intro fuel
  induction fuel with
  | zero => exact fun _ _ _ _ _ _ h => absurd h (Nat.not_lt_zero _)
  | succ fuel ih =>
    intro n hn c hc d hd hlt
    rw [sendList, getNodes_live src n.id hn.top.1 hn.top.2, List.flatMap_map]
    refine List.mem_cons_of_mem _ (List.mem_flatMap.mpr ?_)
    cases d with
    | zero =>
      refine ⟨c, mem_filter_up.mpr ⟨hc, belowD_zero hd⟩, ?_⟩
      obtain ⟨f, rfl⟩ := Nat.exists_eq_add_one.mpr (Nat.lt_of_succ_lt_succ hlt)
      exact List.mem_cons_self ..
    | succ d =>
      obtain ⟨k, hk, hk1, hrest⟩ := hd.top
      obtain ⟨c0, hc0, rfl⟩ := mem_liveK hk
      exact ⟨c0, mem_filter_up.mpr ⟨hc0, hk1⟩,
        ih (neOf src c0) (hn.child hc0 hk1) c hc d hrest (Nat.lt_of_succ_lt_succ hlt)⟩

theorem liveK_length (src : St) : (liveK src).length ≤ src.edges.length := by
  unfold liveK liveEdges
  rw [List.length_map]
  exact List.length_filter_le _ _

theorem sendList_reach (src : St) (ht : TreeK (liveK src)) (n : NE) (hn : Plain src n.id) (c : Edge) (hc : c ∈ liveEdges src)
    (hb : Below (liveK src) n.id c.up) : neOf src c ∈ sendList src (2 ^ src.edges.length + 1) n := by
  obtain ⟨d, hd⟩ := hb
  have h1 := belowD_depth _ (liveK src) rfl ht _ _ d hd
  have h2 := liveK_length src
  have h3 : src.edges.length < 2 ^ src.edges.length := Nat.lt_two_pow_self
  exact sendList_complete src _ n hn c hc d hd (by omega)

theorem SrcOk.name {src : St} {e : Edge} (hs : SrcOk src e.down) (he : e ∈ src.edges) {m : Bytes} (hm : Below (liveK src) e.down m) :
    m ≠ [] ∧ m ≠ rootS ∧ m ≠ allS ∧ m ≠ noneS := by
  rcases hm.inv with rfl | ⟨k, hk, rfl, _⟩
  · exact hs.names e he hm
  · obtain ⟨c, hc, rfl⟩ := mem_liveK hk
    exact hs.names c (liveEdges_mem hc) hm

theorem SrcOk.plain {src : St} {e : Edge} (hs : SrcOk src e.down) (he : e ∈ src.edges) : Plain src e.down :=
  fun _ hm => ⟨(hs.name he hm).2.1, (hs.name he hm).2.2.1⟩

theorem SrcOk.sendable {src : St} {e c : Edge} (hs : SrcOk src e.down) (hc : c ∈ src.edges) (hd : Below (liveK src) e.down c.down)
    {P : Bytes} (hP : P ≠ [] ∧ P ≠ noneS ∧ P ≠ rootS ∧ P ≠ c.down) : Sendable { neOf src c with parent := P } :=
  have ⟨r1, r2, r3, r4⟩ := hs.rows c hc hd
  ⟨r1, r2, r3, (hs.names c hc hd).1, hP, r4⟩

theorem sendList_sendable {src : St} {e : Edge} (hs : SrcOk src e.down) (he : e ∈ src.edges) {P : Bytes}
    (hP : P ≠ [] ∧ P ≠ noneS ∧ P ≠ rootS) (hPb : ¬ Below (liveK src) e.down P) (fuel : Nat) (x : NE)
    (hx : x ∈ sendList src fuel { neOf src e with parent := P }) : Sendable x := by
  cases fuel with
  | zero => cases hx
  | succ fuel =>
    rcases List.mem_cons.mp hx with rfl | hx
    · exact hs.sendable he (.refl _ _) ⟨hP.1, hP.2.1, hP.2.2, fun h => hPb (h ▸ .refl _ _)⟩
    · obtain ⟨c, hc, rfl, hb⟩ := mem_sendList src fuel e.down (hs.plain he) x hx
      obtain ⟨n1, n2, _, n4⟩ := hs.name he hb
      exact hs.sendable (liveEdges_mem hc) (.step (liveK_mem hc) hb)
        ⟨n1, n4, n2, ((liveK_tree src hs.tree).ne (liveK_mem hc)).symm⟩

/-- what the transfer needs of the list `sendNodes` walks for the live subtree of `e`, sent below `P` -/
structure SendListOk (src : St) (e : Edge) (P : Bytes) (l : List NE) : Prop where
  top : { neOf src e with parent := P } ∈ l
  below : ∀ x ∈ l, Below (liveK src) e.down x.id
  sendable : ∀ x ∈ l, Sendable x
  order : l.Pairwise NotYetSeen
  reach : ∀ c ∈ liveEdges src, Below (liveK src) e.down c.up → neOf src c ∈ l

theorem sendList_ok {src : St} {e : Edge} (hs : SrcOk src e.down) (he : e ∈ src.edges) {P : Bytes}
    (hP : P ≠ [] ∧ P ≠ noneS ∧ P ≠ rootS) (hPb : ¬ Below (liveK src) e.down P) :
    SendListOk src e P (sendList src (2 ^ src.edges.length + 1) { neOf src e with parent := P }) :=
  have hLT := liveK_tree src hs.tree
  have hn := hs.plain he
  { top := List.mem_cons_self ..
    below := fun x hx => (sendList_below src _ { neOf src e with parent := P } hn x hx).1
    sendable := sendList_sendable hs he hP hPb _
    order := sendList_pairwise src hLT _ { neOf src e with parent := P } hn hPb
    reach := sendList_reach src hLT { neOf src e with parent := P } hn }

theorem toRemote_a (wall : Int → Int) (s : Pair) (n : NE) : (toRemote wall s n).a = s.a := rfl

theorem toRemote_b (wall : Int → Int) (s : Pair) (n : NE) :
    (toRemote wall s n).b =
      ((sendList s.a (2 ^ s.a.edges.length + 1) n).foldl (sendOne wall) ((s.b, s.clk), true)).1.1 := by
  unfold toRemote sendNodes
  rw [sendNodesAux_eq]

theorem syncNode_missing (wall : Int → Int) (fuel : Nat) (s : Pair) (e : Edge) (hs : SrcOk s.a e.down) (he : e ∈ s.a.edges)
    (hp1 : e.up ≠ rootS) (hp2 : e.up ≠ allS) (hfresh : Fresh s.b e.down) :
    syncNode wall (fuel + 1) s e.up e.down = toRemote wall s (neOf s.a e) := by
  obtain ⟨_, _, hn3, _⟩ := hs.names e he (Below.refl _ _)
  -- the first local edge into the node is `e`: there is no other
  obtain ⟨b, rest, hA, hb, _, hbd⟩ := edges_at s.a (shapes_mem he)
  have hbe : b = e := pairwise_inj Edge.down ((List.pairwise_map (f := shape)).mp hs.tree.single) hb he hbd
  rw [hbe] at hA
  have hB : s.b.edges.filter (fun x => x.up == e.up && x.down == e.down) = [] :=
    List.filter_eq_nil_iff.mpr fun x hx hq => (hfresh.edges x hx).2 (edge_at.mp hq).2
  simp only [syncNode, hp1, if_false, getNodes_pair _ e.up e.down hp1 hp2 hn3, hA, hB, List.map_cons, List.map_nil]
  rw [neOf_parent, if_neg hp1]

end Siot.Sync
