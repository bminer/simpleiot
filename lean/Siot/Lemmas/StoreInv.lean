import Siot.Lemmas.StoreBridge
import Siot.Lemmas.StoreMerge
/- rows of one owner after a write; the invariant of the store (property C03) and how a push of δ restores it -/
namespace Siot.Store
open Siot

theorem rows_new {κ : Type} [BEq κ] [LawfulBEq κ] [DecidableEq κ] (k0 k : κ) (rows : List Point) :
    ((rows.map (fun p => (k0, p))).filter (fun r => r.1 == k)).map (·.2) = if k = k0 then rows else [] := by
  by_cases h : k = k0
  · simp [h, List.filter_map, Function.comp_def]
  · simp [h, Ne.symm h, List.filter_map, Function.comp_def]

theorem rows_write {κ : Type} [BEq κ] [LawfulBEq κ] [DecidableEq κ] (l : List (κ × Point)) (k0 k : κ) (rows : List Point) :
    ((l.filter (fun r => r.1 != k0) ++ rows.map (fun p => (k0, p))).filter (fun r => r.1 == k)).map (·.2) =
      if k = k0 then rows else (l.filter (fun r => r.1 == k)).map (·.2) := by
  rw [List.filter_append, List.map_append, rows_new, List.filter_filter]
  by_cases h : k = k0
  · rw [if_pos h, if_pos h, h, List.filter_eq_nil_iff.mpr fun r _ => by simp]; rfl
  · rw [if_neg h, if_neg h, List.append_nil]
    congr 1
    exact List.filter_congr fun r _ => by by_cases hr : r.1 = k <;> simp [hr, h]

theorem ptsOf_write (st : St) (id : Bytes) (rows : List Point) (n : Bytes) :
    ((st.nodePts.filter (fun r => r.1 != id) ++ rows.map (fun p => (id, p))).filter (fun r => r.1 == n)).map (·.2) =
      if n = id then rows else ptsOf st n := rows_write ..

theorem eptsOf_write (st : St) (k0 : EK) (rows : List Point) (k : EK) :
    ((st.edgePts.filter (fun r => r.1 != k0) ++ rows.map (fun p => (k0, p))).filter (fun r => r.1 == k)).map (·.2) =
      if k = k0 then rows else eptsOf st k.1 k.2 := rows_write ..

theorem mem_ptsOf {st : St} {id : Bytes} {p : Point} : p ∈ ptsOf st id ↔ (id, p) ∈ st.nodePts := by simp [ptsOf]

theorem mem_eptsOf {st : St} {u d : Bytes} {p : Point} : p ∈ eptsOf st u d ↔ ((u, d), p) ∈ st.edgePts := by simp [eptsOf]

def gOf (st : St) : G :=
  { keys := keysOf st.edges,
    nodeC := fun n => xs ((ptsOf st n).map pcrc),
    own := fun k => xs ((eptsOf st k.1 k.2).map pcrc) }

theorem gOf_keys (st : St) : (gOf st).keys = keysOf st.edges := rfl
theorem gOf_nodeC (st : St) (n : Bytes) : (gOf st).nodeC n = xs ((ptsOf st n).map pcrc) := rfl
theorem gOf_own (st : St) (k : EK) : (gOf st).own k = xs ((eptsOf st k.1 k.2).map pcrc) := rfl

/-- stored hashes equal the Merkle hash of the content (as a proposition) -/
def HashInvP (st : St) : Prop := ∀ k ∈ keysOf st.edges, defect (gOf st) (hOf st.edges) k = 0

/-- the bound is the model's fuel, `2 ^ |edges|`, because it has to survive an insertion: lifting what lies below the new edge
    above its parent at most doubles the ranks (`ranked_insert`) -/
def Ranked (st : St) : Prop :=
  ∃ r : Bytes → Nat, (∀ k ∈ keysOf st.edges, r k.1 < r k.2) ∧ ∀ x, r x < 2 ^ st.edges.length

structure Inv (st : St) : Prop where
  nodup : (keysOf st.edges).Nodup
  ranked : Ranked st
  epinv : ∀ row ∈ st.edgePts, row.1 ∈ keysOf st.edges   -- every edge-point row belongs to an edge: a new edge starts without rows
  npu : ∀ id, IdUnique (ptsOf st id)                    -- one row per point identity on every node (the merge loop and its δ rest on it)
  epu : ∀ k : EK, IdUnique (eptsOf st k.1 k.2)          -- and on every edge
  hash : HashInvP st

/-- the rank function also serves any selection `es` of the edges (a filter: `fun _ => keysOf_filter_subset`) -/
theorem Inv.ranked_sub {st : St} (hinv : Inv st) {es : List Edge} (hsub : ∀ k ∈ keysOf es, k ∈ keysOf st.edges) :
    ∃ r : Bytes → Nat, (∀ k ∈ keysOf es, r k.1 < r k.2) ∧ ∀ x, r x < 2 ^ st.edges.length :=
  let ⟨r, hr, hb⟩ := hinv.ranked
  ⟨r, fun k hk => hr k (hsub k hk), hb⟩

/-- every write restores the invariant this way; `hd`: against the new content the hashes of `es` are off by δ on exactly the
    edges into `n` -/
theorem Inv.of_push {st' : St} {es : List Edge} {ks : List EK} {n : Bytes} {δ : Nat}
    (hed : st'.edges = bump (2 ^ es.length) es n δ) (hks : keysOf es = ks) (hnd : ks.Nodup)
    {r : Bytes → Nat} (hr : ∀ k ∈ ks, r k.1 < r k.2) (hb : ∀ x, r x < 2 ^ es.length)
    (hep : ∀ row ∈ st'.edgePts, row.1 ∈ ks) (hnp : ∀ id, IdUnique (ptsOf st' id))
    (hepu : ∀ k : EK, IdUnique (eptsOf st' k.1 k.2))
    (hd : ∀ k ∈ ks, defect (gOf st') (hOf es) k = ite0 (n = k.2) δ) : Inv st' := by
  subst hks
  have hk : keysOf st'.edges = keysOf es := by rw [hed, keysOf_bump]
  have hl : st'.edges.length = es.length := by rw [hed, length_bump]
  -- `keysOf st'.edges` is also what the abstract graph `gOf st'` has for keys
  have hnd' : (gOf st').keys.Nodup := by rw [← hk] at hnd; exact hnd
  have hr' : ∀ k ∈ (gOf st').keys, r k.1 < r k.2 := by rw [← hk] at hr; exact hr
  refine ⟨hnd', ⟨r, hr', hl ▸ hb⟩, hk ▸ hep, hnp, hepu, fun k hk' => ?_⟩
  rw [hed, bump_bridge (gOf st') δ _ n hk, bumpF_defect hnd' hr' δ (hb n) _ hk', hd k (hk ▸ hk'), Nat.xor_self]

theorem kids_hash_sum {es : List Edge} (hnd : (keysOf es).Nodup) (d : Bytes) :
    xorAll ((es.filter (fun e => e.up == d)).map (·.hash)) = xs (((keysOf es).filter (fun c => c.1 == d)).map (hOf es)) := by
  rw [xorAll_eq_xs, keysOf, List.filter_map, List.map_map]
  congr 1
  exact List.map_congr_left fun e he => (hOf_mem hnd (List.mem_filter.mp he).1).symm

theorem Inv.verify_clean {st : St} (hinv : Inv st) : hashInv st = true := by
  rw [hashInv, List.all_eq_true]
  intro e he
  have hd := hinv.hash (keyOf e) (List.mem_map_of_mem he)
  rw [defect, hOf_mem hinv.nodup he] at hd
  rw [beq_iff_eq, eq_of_xor_eq_zero hd, calcHash, kids_hash_sum hinv.nodup, xorAll_eq_xs, xorAll_eq_xs]
  rfl

end Siot.Store
