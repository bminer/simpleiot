import Siot.Lemmas.StoreInv
/- reachability along edges, and what holds of it in a forest; the upstream walk `ancestors` against reachability; acyclicity
   survives a checked insertion (property C05) -/
namespace Siot.Store
open Siot

/-- `x` can be reached from `n` by walking upstream (through any edges) -/
inductive Reach (ks : List EK) : Bytes → Bytes → Prop
  | refl (n : Bytes) : Reach ks n n
  | step (n x : Bytes) (k : EK) : k ∈ ks → k.2 = n → Reach ks k.1 x → Reach ks n x

theorem Reach.mono {ks ks' : List EK} (h : ∀ k ∈ ks, k ∈ ks') {n x : Bytes} (hr : Reach ks n x) : Reach ks' n x := by
  induction hr with
  | refl => exact .refl _
  | step n x k hk hkn _ ih => exact .step n x k (h k hk) hkn ih

theorem Reach.eq_or_up {ks : List EK} {n x : Bytes} (h : Reach ks n x) : x = n ∨ ∃ k ∈ ks, k.1 = x := by
  induction h with
  | refl n => exact .inl rfl
  | step n x k hk _ _ ih => exact .inr (ih.elim (fun h => ⟨k, hk, h.symm⟩) id)

/- Forests. The edges are the keys of a list `L` of any kind of edge record. No cycle: a rank grows along every edge.
   No node below two edges: the lower ends are pairwise different. -/
section Forest
variable {α : Type} {f : α → EK} {L : List α}

theorem Reach.rank_le {r : Bytes → Nat} {n x : Bytes} (h : Reach (L.map f) n x) (hr : ∀ c ∈ L, r (f c).1 < r (f c).2) : r x ≤ r n := by
  induction h with
  | refl => exact Nat.le_refl _
  | step n x k hk hkn _ ih =>
    obtain ⟨c, hc, rfl⟩ := List.mem_map.mp hk
    exact hkn ▸ Nat.le_of_lt (Nat.lt_of_le_of_lt ih (hr c hc))

theorem Reach.not_up {c : α} (h : Reach (L.map f) (f c).1 (f c).2) (hc : c ∈ L)
    (hr : ∃ r : Bytes → Nat, ∀ c ∈ L, r (f c).1 < r (f c).2) : False := by
  obtain ⟨r, hr⟩ := hr
  exact Nat.lt_irrefl _ (Nat.lt_of_lt_of_le (hr c hc) (h.rank_le hr))

theorem Reach.parent {c : α} {n x : Bytes} (h : Reach (L.map f) n x) (hs : L.Pairwise fun a b => (f a).2 ≠ (f b).2) (hc : c ∈ L)
    (hn : (f c).2 = n) : x = n ∨ Reach (L.map f) (f c).1 x := by
  cases h with
  | refl => exact .inl rfl
  | step _ _ k hk hkn h' =>
    obtain ⟨c', hc', rfl⟩ := List.mem_map.mp hk
    exact .inr (pairwise_inj (fun a => (f a).2) hs hc' hc (hkn.trans hn.symm) ▸ h')

theorem Reach.siblings {c1 c2 : α} {y : Bytes} (d1 : Reach (L.map f) y (f c1).2) (d2 : Reach (L.map f) y (f c2).2)
    (hr : ∃ r : Bytes → Nat, ∀ c ∈ L, r (f c).1 < r (f c).2) (hs : L.Pairwise fun a b => (f a).2 ≠ (f b).2) (h1 : c1 ∈ L)
    (h2 : c2 ∈ L) (hup : (f c1).1 = (f c2).1) (hne : c1 ≠ c2) : False := by
  -- the two ways up from `y` share their edges until one of them ends, at the lower end of its `cᵢ`; the other goes on through
  -- `cᵢ` to the common parent, and from there up to the lower end of its own `cⱼ`, which lies below that parent: a cycle
  generalize hx : (f c1).2 = x at d1
  induction d1 with
  | refl =>
    rcases d2.parent hs h1 hx with h | h
    · exact hne (pairwise_inj _ hs h1 h2 (hx.trans h.symm))
    · exact (hup ▸ h).not_up h2 hr
  | step n x k hk hkn d ih =>
    obtain ⟨c, hc, rfl⟩ := List.mem_map.mp hk
    rcases d2.parent hs hc hkn with h | h
    · obtain rfl := pairwise_inj _ hs hc h2 (hkn.trans h.symm)
      rw [← hx, ← hup] at d
      exact d.not_up h1 hr
    · exact ih h hx

end Forest

theorem self_mem_ancestors (fuel : Nat) (es : List Edge) (n : Bytes) : n ∈ ancestors fuel es n := by
  cases fuel <;> exact List.mem_cons_self ..

theorem mem_ancestors_succ {fuel : Nat} {es : List Edge} {n x : Bytes} :
    x ∈ ancestors (fuel + 1) es n ↔ x = n ∨ ∃ e ∈ es, e.down = n ∧ x ∈ ancestors fuel es e.up := by
  simp [ancestors, and_assoc]

theorem ancestors_sound {es : List Edge} {fuel : Nat} {n x : Bytes} (h : x ∈ ancestors fuel es n) : Reach (keysOf es) n x := by
  induction fuel generalizing n with
  | zero => rw [List.mem_singleton.mp h]; exact .refl _
  | succ fuel ih =>
    rcases mem_ancestors_succ.mp h with rfl | ⟨e, he, hd, hx⟩
    · exact .refl _
    · exact .step n x (keyOf e) (List.mem_map_of_mem he) hd (ih hx)

theorem ancestors_complete {es : List Edge} {r : Bytes → Nat} (hr : ∀ k ∈ keysOf es, r k.1 < r k.2) {fuel : Nat} {n x : Bytes}
    (hlt : r n < fuel) (hreach : Reach (keysOf es) n x) : x ∈ ancestors fuel es n := by
  induction fuel generalizing n with
  | zero => exact absurd hlt (Nat.not_lt_zero _)
  | succ fuel ih =>
    rw [mem_ancestors_succ]
    cases hreach with
    | refl => exact Or.inl rfl
    | step _ _ k hk hkn hrest =>
      obtain ⟨e, he, rfl⟩ := List.mem_map.mp hk
      have hup : r e.up < r n := hkn ▸ hr _ hk
      exact Or.inr ⟨e, he, hkn, ih (Nat.lt_of_lt_of_le hup (Nat.le_of_lt_succ hlt)) hrest⟩

theorem mem_ancestors_iff {es : List Edge} {r : Bytes → Nat} (hr : ∀ k ∈ keysOf es, r k.1 < r k.2) {fuel : Nat} {n x : Bytes}
    (h : r n < fuel) : x ∈ ancestors fuel es n ↔ Reach (keysOf es) n x :=
  ⟨ancestors_sound, ancestors_complete hr h⟩

theorem Inv.mem_ancestors {st : St} (hinv : Inv st) {es : List Edge} (hsub : ∀ k ∈ keysOf es, k ∈ keysOf st.edges) {n x : Bytes} :
    x ∈ ancestors (2 ^ st.edges.length) es n ↔ Reach (keysOf es) n x := by
  obtain ⟨r, hr, hb⟩ := hinv.ranked_sub hsub
  exact mem_ancestors_iff hr (hb n)

/-- acyclicity survives a checked insertion: the new ranks stay below the fuel for one more edge -/
theorem ranked_insert (es : List Edge) (r : Bytes → Nat) (hr : ∀ k ∈ keysOf es, r k.1 < r k.2)
    (hb : ∀ x, r x < 2 ^ es.length) (parent node : Bytes)
    (hchk : (ancestors (2 ^ es.length) es parent).contains node = false) :
    ∃ r' : Bytes → Nat, (∀ k ∈ keysOf es ++ [(parent, node)], r' k.1 < r' k.2) ∧ ∀ x, r' x < 2 ^ (es.length + 1) := by
  -- everything from which `node` is found upstream is lifted above `parent`
  let A : Bytes → Bool := fun x => (ancestors (2 ^ es.length) es x).contains node
  have hA : ∀ x, A x = true ↔ Reach (keysOf es) x node := fun x =>
    List.contains_iff_mem.trans (mem_ancestors_iff hr (hb x))
  refine ⟨fun x => if A x then r x + r parent + 1 else r x, fun k hk => ?_, fun x => ?_⟩
  · rcases List.mem_append.mp hk with hk | hk
    · have hlt := hr k hk
      dsimp only
      cases h1 : A k.1
      · rw [if_neg Bool.false_ne_true]
        split <;> omega
      · rw [if_pos rfl, if_pos ((hA _).mpr (.step _ _ k hk rfl ((hA _).mp h1)))]
        omega
    · rw [List.mem_singleton.mp hk]
      dsimp only
      rw [if_pos ((hA node).mpr (.refl _)), if_neg (by rw [show A parent = false from hchk]; exact Bool.false_ne_true)]
      omega
  · have hx := hb x
    have hp := hb parent
    dsimp only
    rw [Nat.pow_succ]
    split <;> omega

end Siot.Store
