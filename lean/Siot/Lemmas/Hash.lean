import Siot.Model.Store
import Siot.Lemmas.Basic
/-
The algebra of the incremental Merkle hash (property C03), over an abstract graph:
edge keys (up, down), a per-node checksum, a per-edge own checksum and a hash assignment.
Key lemma `bumpF_defect`: pushing δ upward from node n toggles exactly the defects of the edges
directly above n — in any DAG (mirrors and diamonds included).
-/
namespace Siot.Store
open Siot

abbrev EK := Bytes × Bytes      -- (up, down)

structure G where
  keys : List EK
  nodeC : Bytes → Nat
  own : EK → Nat

def xs (l : List Nat) : Nat := l.foldr (· ^^^ ·) 0

theorem xs_nil : xs [] = 0 := rfl
theorem xs_cons (a : Nat) (l : List Nat) : xs (a :: l) = a ^^^ xs l := rfl
theorem xs_single (a : Nat) : xs [a] = a := Nat.xor_zero a

theorem xorAll_eq_xs (l : List Nat) : xorAll l = xs l := List.foldr_eq_foldl.symm

def kidsK (g : G) (n : Bytes) : List EK := g.keys.filter (fun c => c.1 == n)
def parentsK (g : G) (n : Bytes) : List EK := g.keys.filter (fun c => c.2 == n)

def calcF (g : G) (h : EK → Nat) (e : EK) : Nat :=
  g.nodeC e.2 ^^^ g.own e ^^^ xs ((kidsK g e.2).map h)

def defect (g : G) (h : EK → Nat) (e : EK) : Nat := h e ^^^ calcF g h e

def toggle (h : EK → Nat) (k : EK) (δ : Nat) : EK → Nat := fun j => if j = k then h j ^^^ δ else h j

def bumpF (g : G) : Nat → Bytes → Nat → (EK → Nat) → (EK → Nat)
  | 0, _, _, h => h
  | f + 1, n, δ, h => (parentsK g n).foldl (fun h e => bumpF g f e.1 δ (toggle h e δ)) h

def ite0 (c : Prop) [Decidable c] (δ : Nat) : Nat := if c then δ else 0

theorem xlc' (a b c : Nat) : a ^^^ (b ^^^ c) = b ^^^ (a ^^^ c) := by
  rw [← Nat.xor_assoc, Nat.xor_comm a b, Nat.xor_assoc]

theorem xcancel (a b : Nat) : a ^^^ b ^^^ b = a := by rw [Nat.xor_assoc, Nat.xor_self, Nat.xor_zero]

theorem xs_append (a b : List Nat) : xs (a ++ b) = xs a ^^^ xs b := by
  rw [xs, List.foldr_append, ← Nat.zero_xor (List.foldr _ 0 b), List.foldr_assoc]
  rfl

theorem ite0_pos {c : Prop} [Decidable c] (h : c) (δ : Nat) : ite0 c δ = δ := if_pos h
theorem ite0_neg {c : Prop} [Decidable c] (h : ¬c) (δ : Nat) : ite0 c δ = 0 := if_neg h

theorem ite0_congr {p q : Prop} [Decidable p] [Decidable q] (h : p ↔ q) (δ : Nat) : ite0 p δ = ite0 q δ := by
  simp only [ite0, h]

theorem ite0_mem_cons {α} {a i : α} {l : List α} [Decidable (i ∈ a :: l)] [Decidable (i = a)] [Decidable (i ∈ l)]
    (ha : a ∉ l) (δ : Nat) : ite0 (i ∈ a :: l) δ = ite0 (i = a) δ ^^^ ite0 (i ∈ l) δ := by
  unfold ite0
  by_cases h : i = a
  · simp [h, ha]
  · simp [h]

theorem toggle_apply (h : EK → Nat) (k : EK) (δ : Nat) (j : EK) : toggle h k δ j = h j ^^^ ite0 (j = k) δ := by
  unfold toggle ite0; split <;> simp

theorem xs_toggle_notin (h : EK → Nat) {i : EK} (δ : Nat) {l : List EK} (hn : ∀ c ∈ l, c ≠ i) :
    xs (l.map (toggle h i δ)) = xs (l.map h) := by
  rw [List.map_congr_left (f := toggle h i δ) (g := h) fun c hc => if_neg (hn c hc)]

theorem xs_map_toggle (h : EK → Nat) (i : EK) (δ : Nat) {l : List EK} (hnd : l.Nodup) :
    xs (l.map (toggle h i δ)) = xs (l.map h) ^^^ ite0 (i ∈ l) δ := by
  induction l with
  | nil => exact (Nat.xor_zero _).symm
  | cons a l ih =>
    rw [List.nodup_cons] at hnd
    rw [List.map_cons, List.map_cons, xs_cons, xs_cons, ih hnd.2, toggle_apply, ite0_mem_cons hnd.1,
      ite0_congr (eq_comm (a := a))]
    ac_rfl

theorem defect_toggle (g : G) (hnd : g.keys.Nodup) (h : EK → Nat) (e f : EK) (he : e ∈ g.keys) (δ : Nat) :
    defect g (toggle h e δ) f = defect g h f ^^^ ite0 (f = e) δ ^^^ ite0 (e.1 = f.2) δ := by
  have hin : e ∈ kidsK g f.2 ↔ e.1 = f.2 := by simp [kidsK, he]
  unfold defect calcF
  rw [xs_map_toggle h e δ (l := kidsK g f.2) (hnd.filter _), toggle_apply, ite0_congr hin]
  ac_rfl

theorem defect_content (g : G) {g' : G} (hk : g'.keys = g.keys) (h : EK → Nat) (f : EK) {a b : Nat}
    (hn : g'.nodeC f.2 = g.nodeC f.2 ^^^ a) (ho : g'.own f = g.own f ^^^ b) :
    defect g' h f = defect g h f ^^^ a ^^^ b := by
  unfold defect calcF kidsK
  rw [hk, hn, ho]
  ac_rfl

/-- **Key lemma (C03).** Everything further up than the edges into `n` is toggled once per path and cancels. -/
theorem bumpF_defect {g : G} {rank : Bytes → Nat} (hnd : g.keys.Nodup) (hr : ∀ e ∈ g.keys, rank e.1 < rank e.2)
    (δ : Nat) {fuel : Nat} {n : Bytes} (hn : rank n < fuel) (h : EK → Nat) {f : EK} (hf : f ∈ g.keys) :
    defect g (bumpF g fuel n δ h) f = defect g h f ^^^ ite0 (n = f.2) δ := by
  induction fuel generalizing n h with
  | zero => exact absurd hn (Nat.not_lt_zero _)
  | succ fuel ih =>
    -- for each edge `e` into `n`: its toggle moves the defect of `e` and of the edges into `e.1`; the push from `e.1` moves
    -- the latter back (`xcancel`); what is left is δ on `e` itself
    have key : ∀ P : List EK, (∀ e ∈ P, e ∈ g.keys ∧ e.2 = n) → P.Nodup → ∀ h : EK → Nat,
        defect g (P.foldl (fun h e => bumpF g fuel e.1 δ (toggle h e δ)) h) f = defect g h f ^^^ ite0 (f ∈ P) δ := by
      intro P
      induction P with
      | nil => intro _ _ h; exact (Nat.xor_zero _).symm
      | cons e P ihP =>
        intro hP hndP h
        rw [List.nodup_cons] at hndP
        obtain ⟨he, hen⟩ := hP e (List.mem_cons_self ..)
        have hlt : rank e.1 < fuel := Nat.lt_of_lt_of_le (hen ▸ hr e he) (Nat.le_of_lt_succ hn)
        rw [List.foldl_cons, ihP (fun x hx => hP x (List.mem_cons_of_mem _ hx)) hndP.2, ih hlt _,
          defect_toggle g hnd h e f he, xcancel, ite0_mem_cons hndP.1, Nat.xor_assoc]
    have hin : f ∈ parentsK g n ↔ n = f.2 := by rw [parentsK, List.mem_filter, beq_iff_eq, eq_comm]; exact and_iff_right hf
    rw [bumpF, key (parentsK g n) (by simp [parentsK]) (hnd.filter _), ite0_congr hin]

/-- a key `e` is added; `b`: the own checksum of `f` may move as well -/
theorem calcF_snoc (g : G) {g' : G} {e : EK} (hk : g'.keys = g.keys ++ [e]) {h h' : EK → Nat} (hh : ∀ c ∈ g.keys, h' c = h c)
    (f : EK) {b : Nat} (hn : g'.nodeC f.2 = g.nodeC f.2) (ho : g'.own f = g.own f ^^^ b) :
    calcF g' h' f = calcF g h f ^^^ b ^^^ ite0 (e.1 = f.2) (h' e) := by
  have he : xs (([e].filter fun c => c.1 == f.2).map h') = ite0 (e.1 = f.2) (h' e) := by
    by_cases he : e.1 = f.2 <;> simp [he, ite0, xs_single, xs_nil]
  unfold calcF kidsK
  rw [hk, hn, ho, List.filter_append, List.map_append, xs_append, he,
    List.map_congr_left fun c hc => hh c (List.mem_filter.mp hc).1]
  simp only [Nat.xor_assoc]
  rw [xlc' b]

theorem bumpF_keys (g g' : G) (hk : g.keys = g'.keys) : ∀ fuel n δ h, bumpF g fuel n δ h = bumpF g' fuel n δ h := by
  intro fuel
  induction fuel with
  | zero => intro n δ h; rfl
  | succ fuel ih =>
    intro n δ h
    simp only [bumpF, parentsK, hk]
    congr 1
    funext h e
    exact ih e.1 δ _

end Siot.Store
