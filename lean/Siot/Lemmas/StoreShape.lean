import Siot.Lemmas.StoreOps
/- The tree of a store — its edges without their hashes — and what the three writes do to it. -/
namespace Siot.Export
open Siot Siot.Store

def shape (e : Edge) : Bytes × Bytes × Bytes := (e.up, e.down, e.typ)

theorem shape_eq {e : Edge} {u d t : Bytes} (h : shape e = (u, d, t)) : e.up = u ∧ e.down = d ∧ e.typ = t := by
  cases h
  exact ⟨rfl, rfl, rfl⟩

theorem shape_keys (a b : List Edge) (h : a.map shape = b.map shape) : keysOf a = keysOf b := by
  have := congrArg (List.map fun s => (s.1, s.2.1)) h
  rwa [List.map_map, List.map_map] at this

theorem shape_mem (a b : List Edge) (h : a.map shape = b.map shape) (e : Edge) (he : e ∈ a) : ∃ e' ∈ b, shape e' = shape e :=
  List.mem_map.mp (h ▸ List.mem_map_of_mem he)

end Siot.Export

namespace Siot.Sync
open Siot Siot.Store Siot.Export

abbrev Sh := Bytes × Bytes × Bytes          -- (up, down, type) of an edge

/-- the tree of a store: its edges without their hashes, which is all that point writes change of them -/
def shapes (st : St) : List Sh := st.edges.map shape

theorem mem_shapes {st : St} {k : Sh} (hk : k ∈ shapes st) : ∃ e ∈ st.edges, e.up = k.1 ∧ e.down = k.2.1 ∧ e.typ = k.2.2 := by
  obtain ⟨e, he, rfl⟩ := List.mem_map.mp hk
  exact ⟨e, he, rfl, rfl, rfl⟩

theorem shapes_mem {st : St} {e : Edge} (he : e ∈ st.edges) : shape e ∈ shapes st := List.mem_map_of_mem he

theorem shapes_nodeWrite (st : St) (id : Bytes) (batch : List Point) : shapes (nodeWrite st id batch) = shapes st :=
  bump_map shape (fun _ _ => rfl) ..

theorem shapes_edgeWrite (st : St) (u d : Bytes) (batch : List Point) : shapes (edgeWrite st u d batch) = shapes st :=
  (bump_map shape (fun _ _ => rfl) ..).trans (toggleList_map shape (fun _ _ => rfl) st.edges (u, d) _)

theorem shapes_edgeInsert (st : St) (u d typ : Bytes) (batch : List Point) :
    shapes (edgeInsert st u d typ batch) = shapes st ++ [(u, d, typ)] :=
  (bump_map shape (fun _ _ => rfl) ..).trans List.map_append

end Siot.Sync
