import Siot.Lemmas.SyncExchange
import Siot.Lemmas.ExportStore
/-
C02, a node that the other store does not know: what `SendNode` of the local copy leaves there. The two store calls of
`SendNode` on an unknown id are the store-level step shared with C15 (`Export.write_unknown`); here the points sent are
stored rows, which the store takes as they are.
-/
namespace Siot.Sync
open Siot Siot.Store Siot.Export

structure Rows (l : List Point) : Prop where
  st : StoredRows l
  uniq : IdUnique l
  time : ∀ p ∈ l, p.time ≠ 0

theorem stored_key_ne_nil (p : Point) (h : normPoint p = p) : p.key ≠ [] := by
  intro hk
  have : (normPoint p).key = p.key := by rw [h]
  unfold normPoint normKey at this
  simp only [hk, List.isEmpty_nil, if_true] at this
  exact absurd this (by decide)

/-- the edge rows upstream after `SendNode`: the local rows, and the deletion mark "not deleted, now" when they carry none -/
def sentE (eps : List Point) (now : Int) : List Point :=
  eps ++ (if hasTomb eps then [] else [({ type := tombstoneT, key := zeroKey, time := now } : Point)])

/-- a record `SendNode` can create -/
structure Sendable (n : NE) : Prop where
  pts : Rows n.pts
  epts : Rows n.epts
  nt : ∀ p ∈ n.epts, p.type ≠ nodeTypeT
  id : n.id ≠ []
  parent : n.parent ≠ [] ∧ n.parent ≠ noneS ∧ n.parent ≠ rootS ∧ n.parent ≠ n.id
  typ : n.typ ≠ []

/-- a later record `b` is neither an earlier record `a` nor the parent of one: it is still `Fresh` when its turn comes -/
abbrev NotYetSeen (a b : NE) : Prop := b.id ≠ a.id ∧ b.id ≠ a.parent

theorem sendNode_transfer (st : St) (n : NE) (now : Int) (hn : Sendable n) (hf : Fresh st n.id) :
    ∃ st', Sync.sendNode st n now = some st' ∧ Added st st' n.parent n.id n.typ n.pts (sentE n.epts now) := by
  obtain ⟨hP, hE, hnt, hid, hp, ht⟩ := hn
  obtain ⟨st1, st', h1, h2, h⟩ := write_unknown (pts := n.pts) (eps := sentEdge n.epts (hasTomb n.epts) n.typ now)
    (ps := n.pts) (E := sentE n.epts now) (nt := { type := nodeTypeT, key := zeroKey, text := n.typ, time := now })
    { rows := storedRows_map_norm hP.st
      nan := storedRows_no_nan hP.st
      uniq := hP.uniq
      erows := (sentEdge_norm ..).trans (by rw [storedRows_map_norm hE.st, sentE])
      enan := sentEdge_no_nan (storedRows_no_nan hE.st) ..
      euniq := withMark_unique hE.uniq hnt hasTombE_of_hasTomb _ _
      ntype := rfl
      etype := withMark_type hnt _ _ }
    hf hp.1 hp.2.2.1 hp.2.2.2 ht
  refine ⟨st', ?_, h⟩
  rw [sentEdge] at h2
  unfold Sync.sendNode
  rw [if_neg (not_or.mpr ⟨hid, not_or.mpr ⟨hp.1, hp.2.1⟩⟩)]
  simp only [h1, h2]

end Siot.Sync
