import Siot.Model.Sync
import Siot.Lemmas.LWW
/-
The selection `syncPts` of the exchange between two copies `L` (downstream) and `U` (upstream) of the rows of one owner:
what is sent each way is what is strictly newer than everything of its identity on the other side; what is not sent is
dominated there. Hence writing the selection through the merge loop leaves both sides with the newest point of every
identity found on either side.
-/
namespace Siot.Sync
open Siot Siot.Store

def Newer (p : Point) (U : List Point) : Prop := ∀ u ∈ U, sameId u p = true → u.time < p.time

theorem toUp_sub {L U : List Point} {p : Point} (h : p ∈ (syncPts L U).1) : p ∈ L := (List.mem_filter.mp h).1

theorem toDown_sub {L U : List Point} {q : Point} (h : q ∈ (syncPts L U).2) : q ∈ U := by
  rcases List.mem_append.mp h with h | h
  · obtain ⟨l, _, h⟩ := List.mem_filterMap.mp h
    split at h
    · rename_i u hf
      obtain ⟨_, hu⟩ := Option.ite_none_right_eq_some.mp h
      cases hu
      exact List.mem_of_find?_eq_some hf
    · cases h
  · exact (List.mem_filter.mp h).1

theorem mem_toUp {L U : List Point} (hU : IdUnique U) (p : Point) : p ∈ (syncPts L U).1 ↔ p ∈ L ∧ Newer p U := by
  simp only [syncPts, List.mem_filter, ← sameId_def, and_congr_right_iff]
  intro _
  cases hf : U.find? (fun q => sameId q p) with
  | none => exact ⟨fun _ u hu hs => absurd hs (List.find?_eq_none.mp hf u hu), fun _ => rfl⟩
  | some q =>
    obtain ⟨hq, hqs⟩ := (find_sameId_iff hU p q).mp hf
    refine ⟨fun h u hu hs => ?_, fun h => decide_eq_true (h q hq hqs)⟩
    rw [idUnique_eq hU hu hq (sameId_trans hs (by rw [sameId_symm]; exact hqs))]
    exact of_decide_eq_true h

theorem mem_toDown {L U : List Point} (hL : IdUnique L) (hU : IdUnique U) (q : Point) : q ∈ (syncPts L U).2 ↔ q ∈ U ∧ Newer q L := by
  simp only [syncPts, List.mem_append, List.mem_filterMap, List.mem_filter, Bool.not_eq_true', List.any_eq_false, ← sameId_def]
  constructor
  · rintro (⟨l, hl, h⟩ | ⟨hq, h⟩)
    · cases hf : U.find? (fun u => sameId u l) with
      | none => rw [hf] at h; cases h
      | some u =>
        rw [hf] at h
        obtain ⟨hlt, hu⟩ := Option.ite_none_right_eq_some.mp h
        cases hu
        obtain ⟨hq, hqs⟩ := (find_sameId_iff hU l q).mp hf
        refine ⟨hq, fun l' hl' hs => ?_⟩
        rw [idUnique_eq hL hl' hl (sameId_trans hs hqs)]
        exact hlt
    · exact ⟨hq, fun l hl hs => absurd (by rw [sameId_symm]; exact hs) (h l hl)⟩
  · rintro ⟨hq, hN⟩
    by_cases hex : ∃ l ∈ L, sameId l q = true
    · obtain ⟨l, hl, hs⟩ := hex
      refine Or.inl ⟨l, hl, ?_⟩
      rw [(find_sameId_iff hU l q).mpr ⟨hq, by rw [sameId_symm]; exact hs⟩]
      exact if_pos (hN l hl hs)
    · exact Or.inr ⟨hq, fun l hl hs => hex ⟨l, hl, by rw [sameId_symm]; exact hs⟩⟩

theorem delivered_singles {S : List Point} (h : ∀ q ∈ S, normPoint q = q) : delivered (S.map (fun q => [q])) = S := by
  unfold delivered
  rw [← List.flatMap_def, List.flatMap_singleton', List.map_congr_left h, List.map_id']

/-- one side of the exchange, either one: `X` merges the points `S` of the other side `Y` that are newer than its own -/
theorem rowsAfter_newer {X Y S ds : List Point} (hX : IdUnique X) (hY : ∀ p ∈ Y, normPoint p = p)
    (hS : ∀ y, y ∈ S ↔ y ∈ Y ∧ Newer y X) (hds : ∀ x, x ∈ ds ↔ x ∈ X ∨ x ∈ Y) :
    LWW (rowsAfter X (S.map (fun q => [q]))) ds := by
  have h := rowsAfter_lww (idUnique_lww_self hX) (S.map (fun q => [q]))
  rw [delivered_singles fun q hq => hY q ((hS q).mp hq).1] at h
  refine h.of_dom (fun x hx => (hds x).mpr ((List.mem_append.mp hx).imp_right fun hx => ((hS x).mp hx).1)) fun y hy => ?_
  rcases (hds y).mp hy with hy | hy
  · exact ⟨y, List.mem_append_left _ hy, sameId_refl y, Int.le_refl _⟩
  · by_cases hN : Newer y X
    · exact ⟨y, List.mem_append_right _ ((hS y).mpr ⟨hy, hN⟩), sameId_refl y, Int.le_refl _⟩
    · simp only [Newer, Classical.not_forall, Int.not_lt] at hN
      obtain ⟨x, hx, hs, ht⟩ := hN
      exact ⟨x, List.mem_append_left _ hx, hs, ht⟩

theorem syncPts_converge (L U : List Point) (hL : IdUnique L) (hU : IdUnique U)
    (hnL : ∀ p ∈ L, normPoint p = p) (hnU : ∀ p ∈ U, normPoint p = p) (hadm : Admissible (L ++ U)) (p : Point) :
    (p ∈ rowsAfter L ((syncPts L U).2.map (fun q => [q])) ↔ Newest (L ++ U) p) ∧
    (p ∈ rowsAfter U ((syncPts L U).1.map (fun q => [q])) ↔ Newest (L ++ U) p) :=
  ⟨lww_mem_iff (rowsAfter_newer hL hnU (mem_toDown hL hU) fun _ => List.mem_append) hadm p,
    lww_mem_iff (rowsAfter_newer hU hnL (mem_toUp hU) fun _ => List.mem_append.trans or_comm) hadm p⟩

end Siot.Sync
