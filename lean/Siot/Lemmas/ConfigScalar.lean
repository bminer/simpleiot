import Siot.Model.Config
/-
Scalars of the supported universe and the points that carry them: `pointOf` is the point `keyed` produces, and
`setScalar` reads the scalar back from it. Every encoder and every diff emits such points for what is there and tombstones
(`tombPts`) for what is gone; the diffs pass them through `addNorm`, which leaves them alone unless the key is empty.
-/
namespace Siot.Config
open Siot

variable {N : Num} {pt : Bytes} {k : SKind}

/-- the laws of IEEE-754 / Go conversions that the round trip relies on (assumed of the real
    conversions, exercised by the correspondence run; every theorem states them as a hypothesis) -/
structure NumLaws (N : Num) : Prop where
  int_rt : ∀ i : Int, -maxSafeInteger ≤ i → i ≤ maxSafeInteger → N.toInt64 (N.ofInt i) = i
  uint_rt : ∀ n : Nat, (n : Int) ≤ maxSafeInteger → N.toUint64 (N.ofInt n) = n ∧ N.isNeg (N.ofInt n) = false
  one : N.isOne (N.ofInt 1) = true
  zero : N.isOne (N.ofInt 0) = false
  f32_rt : ∀ b : Nat, N.narrow (N.widen b) = b

/-- a scalar of kind `k` inside the supported universe: the Go type's range and the safe-integer limit -/
def SOk : SKind → SVal → Prop
  | .bool, .b _ => True
  | .int bits, .i x => fitsInt bits x = true ∧ -maxSafeInteger ≤ x ∧ x ≤ maxSafeInteger
  | .uint bits, .u x => fitsUint bits x = true ∧ (x : Int) ≤ maxSafeInteger
  | .f32, .f _ => True
  | .f64, .f _ => True
  | .str, .s _ => True
  | _, _ => False

theorem tombOdd_zero : tombOdd 0 = false := rfl
theorem tombOdd_one : tombOdd 1 = true := rfl

def pointOf (N : Num) (pt : Bytes) (k : SKind) (key : Bytes) (v : SVal) : Point :=
  { type := pt, key := key,
    value := match widenS N k v with
      | .b x => N.ofInt (if x then 1 else 0) | .i x => N.ofInt x | .u x => N.ofInt x | .f bits => bits | .s _ => 0,
    text := match v with | .s x => x | _ => [] }

theorem keyed_ok (key : Bytes) (v : SVal) (h : SOk k v) : keyed N pt k key v = .ok (pointOf N pt k key v) := by
  cases k <;> cases v <;> try exact h.elim
  case int.i bits x =>
    simp only [keyed, pointFromScalar, widenS]
    rw [if_neg (by have := h.2; omega)]
    rfl
  case uint.u bits x =>
    simp only [keyed, pointFromScalar, widenS]
    rw [if_neg (by have := h.2; omega)]
    rfl
  all_goals rfl

theorem setScalar_pointOf (hN : NumLaws N) (key : Bytes) (v : SVal) (h : SOk k v) :
    setScalar N k (pointOf N pt k key v) = .ok v := by
  cases k <;> cases v <;> try exact h.elim
  case bool.b x => cases x <;> simp [setScalar, pointOf, widenS, tombOdd_zero, hN.one, hN.zero]
  case int.i bits x => simp [setScalar, pointOf, widenS, tombOdd_zero, hN.int_rt x h.2.1 h.2.2, h.1]
  case uint.u bits x => simp [setScalar, pointOf, widenS, tombOdd_zero, hN.uint_rt x h.2, h.1]
  case f32.f b => simp [setScalar, pointOf, widenS, tombOdd_zero, hN.f32_rt]
  all_goals rfl

@[simp] theorem pointOf_key (key : Bytes) (v : SVal) : (pointOf N pt k key v).key = key := rfl
@[simp] theorem pointOf_tomb (key : Bytes) (v : SVal) : (pointOf N pt k key v).tomb = 0 := rfl

/-- one tombstone of type `pt` per key -/
def tombPts (pt : Bytes) (keys : List Bytes) : List Point := keys.map fun key => { type := pt, key := key, tomb := 1 }

theorem tombPts_type (keys : List Bytes) : ∀ p ∈ tombPts pt keys, p.type = pt := by
  intro p hp
  obtain ⟨_, _, rfl⟩ := List.mem_map.mp hp
  rfl

theorem mapM'_ok {α β : Type} (f : α → Res β) (g : α → β) (l : List α) (h : ∀ a ∈ l, f a = .ok (g a)) :
    mapM' f l = .ok (l.map g) := by
  induction l with
  | nil => rfl
  | cons a l ih =>
    obtain ⟨h1, h⟩ := List.forall_mem_cons.mp h
    simp only [mapM', h1, ih h, List.map_cons]

theorem setScalar_addNorm (p : Point) : setScalar N k (addNorm p) = setScalar N k p := by
  unfold addNorm
  split <;> rfl

theorem addNorm_type (p : Point) : (addNorm p).type = p.type := by
  unfold addNorm; split <;> rfl

theorem addNorm_tomb (p : Point) : (addNorm p).tomb = p.tomb := by
  unfold addNorm; split <;> rfl

theorem addNorm_eq_self (p : Point) (h : p.key ≠ []) : addNorm p = p := by
  unfold addNorm
  rw [List.isEmpty_eq_false_iff.mpr h]
  rfl

theorem addNorm_key_ne (p : Point) : (addNorm p).key ≠ [] := by
  unfold addNorm
  split
  · simp
  · next h => exact fun hc => h (hc ▸ rfl)

/-! ### `Encode` and `DiffPoints` on scalars and pointers to them -/
theorem encodeField_scalar (x : SVal) (h : SOk k x) : encodeField N pt (.scalar k) (.scalar x) = .ok [pointOf N pt k [] x] := by
  unfold encodeField
  dsimp only
  rw [keyed_ok [] x h]
  rfl

theorem encodeField_ptr (x : SVal) (h : SOk k x) : encodeField N pt (.ptr k) (.ptr (some x)) = .ok [pointOf N pt k [] x] :=
  encodeField_scalar x h

theorem diffField_scalar (x y : SVal) (h : SOk k y) (he : ¬sEq N k x y = true) :
    diffField N pt (.scalar k) (.scalar x) (.scalar y) = .ok [addNorm (pointOf N pt k [] y)] := by
  unfold diffField
  dsimp only
  rw [if_neg he, keyed_ok [] y h]
  rfl

/-- pointers compare by address: a point whatever the old pointee was -/
theorem diffField_ptr (x : Option SVal) (y : SVal) (h : SOk k y) :
    diffField N pt (.ptr k) (.ptr x) (.ptr (some y)) = .ok [addNorm (pointOf N pt k [] y)] := by
  cases x
  all_goals
    unfold diffField
    dsimp only
    rw [keyed_ok [] y h]
    rfl

end Siot.Config
