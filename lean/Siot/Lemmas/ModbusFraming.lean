import Siot.Model.ModbusE2E
import Siot.Lemmas.Modbus
/-
RTU and TCP frames: what the decoders make of an encoded frame, and that a frame within the buffer is not cut.
The arithmetic is all in `join_put`: the model writes the two bytes of a 16-bit value as
`u8 (v / 256 % 256), u8 (v % 256)` (`put16`, `be16`, both frame headers, the RTU trailer) and reads them back as
`hi.toNat * 256 + lo.toNat` (inline in the decoders; `word` in Model/Modbus).
-/
namespace Siot.Modbus
open Siot

theorem two_digits (b v : Nat) (h : v < b * b) : v / b % b * b + v % b = v := by
  rw [Nat.mod_eq_of_lt (Nat.div_lt_of_lt_mul h), Nat.mul_comm, Nat.div_add_mod]

theorem digits_two (b hi lo : Nat) (h1 : hi < b) (h2 : lo < b) :
    (hi * b + lo) / b % b = hi ∧ (hi * b + lo) % b = lo := by
  rw [Nat.mul_comm, Nat.mul_add_div (Nat.zero_lt_of_lt h1), Nat.mul_add_mod, Nat.div_eq_of_lt h2, Nat.mod_eq_of_lt h2,
    Nat.add_zero, Nat.mod_eq_of_lt h1]
  exact ⟨rfl, rfl⟩

theorem join_put (v : Nat) (h : v < 65536) : (u8 (v / 256 % 256)).toNat * 256 + (u8 (v % 256)).toNat = v := by
  rw [u8_toNat _ (Nat.mod_lt _ (by decide)), u8_toNat _ (Nat.mod_lt _ (by decide)), two_digits 256 v h]

theorem rtuBit_lt (c : Nat) (h : c < 65536) : rtuBit c < 65536 := by
  have h2 : c / 2 < 65536 := Nat.lt_of_le_of_lt (Nat.div_le_self c 2) h
  unfold rtuBit
  split
  · exact Nat.xor_lt_two_pow (n := 16) h2 (by decide)
  · exact h2

theorem rtuByte_lt (c : Nat) (b : UInt8) (h : c < 65536) : rtuByte c b < 65536 := by
  have h0 : c ^^^ b.toNat < 65536 :=
    Nat.xor_lt_two_pow (n := 16) h (Nat.lt_trans (UInt8.toNat_lt b) (by decide))
  exact rtuBit_lt _ (rtuBit_lt _ (rtuBit_lt _ (rtuBit_lt _ (rtuBit_lt _ (rtuBit_lt _ (rtuBit_lt _ (rtuBit_lt _ h0)))))))

theorem foldl_rtuByte_lt (buf : Bytes) {c : Nat} (h : c < 65536) : buf.foldl rtuByte c < 65536 :=
  List.foldlRecOn (motive := (· < 65536)) buf rtuByte h fun c hc b _ => rtuByte_lt c b hc

theorem rtuCrc_lt (buf : Bytes) : rtuCrc buf < 65536 :=
  Nat.or_lt_two_pow (n := 16) (Nat.lt_of_le_of_lt (Nat.div_le_self _ _) (foldl_rtuByte_lt buf (by decide)))
    (Nat.mod_lt _ (by decide))

theorem rtuDecode_split (id fcb : UInt8) (data : Bytes) (hi lo : UInt8) :
    rtuDecode (id :: fcb :: data ++ [hi, lo]) =
      if rtuCrc (id :: fcb :: data) = hi.toNat * 256 + lo.toNat then .ok (id, fcb.toNat, data) else .err "crc" := by
  have hl : (id :: fcb :: data ++ [hi, lo]).length - 2 = (id :: fcb :: data).length := by simp
  unfold rtuDecode
  rw [if_neg (by simp), hl, List.take_left, List.drop_left]

theorem rtu_rejects_short (p : Bytes) (h : p.length < 4) : rtuDecode p = .err "short" := by
  unfold rtuDecode
  rw [if_pos h]

theorem rtu_rejects_bad_crc (id fcb : UInt8) (data : Bytes) (hi lo : UInt8)
    (h : rtuCrc (id :: fcb :: data) ≠ hi.toNat * 256 + lo.toNat) :
    rtuDecode (id :: fcb :: data ++ [hi, lo]) = .err "crc" := by
  rw [rtuDecode_split, if_neg h]

theorem rtu_roundtrip (id : UInt8) (fc : Nat) (hfc : fc < 256) (data : Bytes) :
    rtuDecode (rtuEncode id fc data) = .ok (id, fc, data) := by
  unfold rtuEncode
  rw [rtuDecode_split, join_put _ (rtuCrc_lt _), if_pos rfl, u8_toNat fc hfc]

/-- The frame is `data.length + 4` long; the bound is that of `tcpEncode_take`, so that `exchange_ok` has one
hypothesis for both framings. -/
theorem rtuEncode_take (id : UInt8) (fc : Nat) (data : Bytes) (n : Nat) (h : data.length + 8 ≤ n) :
    (rtuEncode id fc data).take n = rtuEncode id fc data :=
  List.take_of_length_le (by simp [rtuEncode]; omega)

theorem tcpDecodeClient_encode (tx tx' : Nat) (htx' : tx' < 65536) (id : UInt8) (fc : Nat) (d0 : UInt8) (rest : Bytes) :
    tcpDecodeClient tx (tcpEncode tx' id fc (d0 :: rest)) =
      if tx' ≠ tx then .err "txid" else .ok (id, (u8 fc).toNat, d0 :: rest) := by
  show (if (u8 _).toNat * 256 + (u8 _).toNat ≠ tx then _ else _) = _
  rw [join_put tx' htx']

theorem tcp_roundtrip (tx : Nat) (htx : tx < 65536) (id : UInt8) (fc : Nat) (hfc : fc < 256) (d0 : UInt8) (rest : Bytes) :
    tcpDecodeClient tx (tcpEncode tx id fc (d0 :: rest)) = .ok (id, fc, d0 :: rest) := by
  rw [tcpDecodeClient_encode tx tx htx, if_neg (· rfl), u8_toNat fc hfc]

theorem tcp_rejects_short (tx : Nat) (p : Bytes) (h : p.length < 9) : tcpDecodeClient tx p = .err "short" := by
  unfold tcpDecodeClient
  split
  · simp only [List.length_cons] at h
    omega
  · rfl

theorem tcp_rejects_txid (tx tx' : Nat) (htx' : tx' < 65536) (hne : tx' ≠ tx) (id : UInt8) (fc : Nat)
    (d0 : UInt8) (rest : Bytes) :
    tcpDecodeClient tx (tcpEncode tx' id fc (d0 :: rest)) = .err "txid" := by
  rw [tcpDecodeClient_encode tx tx' htx', if_pos hne]

theorem tcp_server_roundtrip (tx : Nat) (htx : tx < 65536) (id : UInt8) (fc : Nat) (hfc : fc < 256) (d0 : UInt8) (rest : Bytes) :
    tcpDecodeServer (tcpEncode tx id fc (d0 :: rest)) = .ok (tx, id, fc, d0 :: rest) := by
  show Res.ok ((u8 _).toNat * 256 + (u8 _).toNat, _, (u8 fc).toNat, _) = _
  rw [join_put tx htx, u8_toNat fc hfc]

theorem tcpEncode_take (tx : Nat) (id : UInt8) (fc : Nat) (data : Bytes) (n : Nat) (h : data.length + 8 ≤ n) :
    (tcpEncode tx id fc data).take n = tcpEncode tx id fc data :=
  List.take_of_length_le (by simpa [tcpEncode] using h)

end Siot.Modbus
