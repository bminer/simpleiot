import Siot.Model.Pb
import Siot.Lemmas.Proto3
/- C12 at the message level, before any bytes: `pbOf p` and `pbNodeOf n` are the messages `ToPb` and `ToPbNode` make, and
   `PbToPoint` and `PbToNode` take them back (two's complement is in Proto3.lean); the conversions back and the subject
   parsers have no `panic` outcome. -/
namespace Siot.Pb
open Siot Siot.Proto3

theorem mapRes_no_panic {α β : Type} {f : α → Res β} {l : List α} (h : ∀ a ∈ l, ∀ m, f a ≠ .panic m)
    (m : String) : mapRes f l ≠ .panic m := by
  induction l generalizing m with
  | nil => nofun
  | cons a as ih =>
    rw [mapRes]
    cases hfa : f a with
    | panic m' => exact absurd hfa (h a (.head _) m')
    | err e => nofun
    | ok b =>
      cases hm : mapRes f as with
      | panic m' => exact absurd hm (ih (fun x hx => h x (.tail _ hx)) m')
      | _ => nofun

theorem mapRes_ok {α β : Type} (f : α → Res β) (g : α → β) (l : List α) (h : ∀ a ∈ l, f a = .ok (g a)) :
    mapRes f l = .ok (l.map g) := by
  induction l with
  | nil => rfl
  | cons a as ih => simp only [mapRes, h a (.head _), ih fun x hx => h x (.tail _ hx), List.map_cons]

theorem mapRes_inv {α β : Type} (f : α → β) (g : β → Res α) (l : List α) (h : ∀ a ∈ l, g (f a) = .ok a) :
    mapRes g (l.map f) = .ok l := by
  induction l with
  | nil => rfl
  | cons a as ih => simp only [List.map_cons, mapRes, h a (.head _), ih fun x hx => h x (.tail _ hx)]

theorem pbToPoint_no_panic (q : PbPoint) (m : String) : pbToPoint q ≠ .panic m := by
  unfold pbToPoint
  split
  · nofun
  · split <;> nofun

theorem pbToNode_no_panic (q : Option PbNode) (m : String) : pbToNode q ≠ .panic m := by
  unfold pbToNode
  split
  · nofun
  · next q =>
    have h1 := mapRes_no_panic (l := q.points) fun p _ => pbToPoint_no_panic p
    have h2 := mapRes_no_panic (l := q.edgePoints) fun p _ => pbToPoint_no_panic p
    split
    · nofun
    · nofun
    · nofun
    · exact absurd ‹_› (h1 _)
    · exact absurd ‹_› (h2 _)

theorem slice_ok (b : Bytes) (lo hi : Nat) (h : lo ≤ hi ∧ hi ≤ b.length) :
    slice b lo hi = .ok ((b.take hi).drop lo) :=
  if_pos h

theorem parseSubject_no_panic (k : Nat) (pos : List Nat) (hpos : ∀ i ∈ pos, i < k) (s : Bytes) (m : String) :
    parseSubject k pos s ≠ .panic m := by
  simp only [parseSubject]
  split
  · nofun
  · refine mapRes_no_panic (fun i hi m' => ?_) m
    rw [idx, List.getElem?_eq_getElem (by have := hpos i hi; omega)]
    nofun

/-- a time inside the Timestamp range, nanoseconds normalised -/
def WireTime (p : Point) : Prop :=
  minValidSeconds ≤ p.sec ∧ p.sec < maxValidSeconds ∧ 0 ≤ p.nsec ∧ p.nsec < 1000000000

theorem validTs_of_wire (p : Point) (h : WireTime p) : validTs ⟨p.sec, p.nsec⟩ = true := by
  obtain ⟨h1, h2, h3, h4⟩ := h
  simp [validTs, h1, h2, h3, h4]

def pbOf (p : Point) : PbPoint :=
  { type := p.type, key := p.key, value := p.value, text := p.text, time := some ⟨p.sec, p.nsec⟩,
    tombstone := toInt32 (ofInt64 p.tomb), data := p.data, origin := p.origin }

theorem toPb_pbOf (p : Point) (ht : WireTime p) : toPb p = .ok (pbOf p) :=
  if_pos (validTs_of_wire p ht)

theorem pbToPoint_pbOf (p : Point) (h : WireTime p ∧ Int32 p.tomb) : pbToPoint (pbOf p) = .ok p := by
  simp only [pbToPoint, pbOf, validTs_of_wire p h.1, if_true, toInt32_ofInt64 p.tomb h.2]

def pbNodeOf (n : Node) : PbNode :=
  { id := n.id, type := n.type, hash := toInt32 n.hash, parent := n.parent,
    points := n.points.map pbOf, edgePoints := n.edgePoints.map pbOf }

theorem toPbNode_pbNodeOf (n : Node) (hp : ∀ p ∈ n.points ++ n.edgePoints, WireTime p) :
    toPbNode n = .ok (pbNodeOf n) := by
  obtain ⟨h1, h2⟩ := List.forall_mem_append.1 hp
  simp only [toPbNode, pbNodeOf, mapRes_ok toPb pbOf _ fun p h => toPb_pbOf p (h1 p h),
    mapRes_ok toPb pbOf _ fun p h => toPb_pbOf p (h2 p h)]

theorem pbToNode_pbNodeOf (n : Node) (hh : n.hash < 4294967296)
    (hp : ∀ p ∈ n.points ++ n.edgePoints, WireTime p ∧ Int32 p.tomb) : pbToNode (some (pbNodeOf n)) = .ok n := by
  obtain ⟨h1, h2⟩ := List.forall_mem_append.1 hp
  simp only [pbToNode, pbNodeOf, toInt32_emod_toNat, Nat.mod_eq_of_lt hh,
    mapRes_inv pbOf pbToPoint _ fun p h => pbToPoint_pbOf p (h1 p h),
    mapRes_inv pbOf pbToPoint _ fun p h => pbToPoint_pbOf p (h2 p h)]

end Siot.Pb
