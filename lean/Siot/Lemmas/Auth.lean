import Siot.Model.Auth
import Siot.Lemmas.StoreBridge
/- Lemmas for C09 (Siot/Model/Auth.lean): each access decision of the model said as a membership or an iff, so that the
   property theorems are read off. -/
namespace Siot.Auth
open Siot Siot.Store

theorem fieldsAux_mem (s : Bytes) : ∀ (cur : Bytes), (∀ b ∈ cur, isSpace b = false) →
    ∀ f ∈ fieldsAux cur s, f ≠ [] ∧ ∀ b ∈ f, isSpace b = false := by
  -- the field being collected is emitted when it is not empty
  have flush : ∀ (cur : Bytes) (L : List Bytes), (∀ b ∈ cur, isSpace b = false) →
      ∀ f ∈ (if cur.isEmpty then L else cur.reverse :: L), (f ≠ [] ∧ ∀ b ∈ f, isSpace b = false) ∨ f ∈ L := by
    intro cur L hc f hf
    by_cases he : cur.isEmpty = true
    · exact Or.inr (by rwa [if_pos he] at hf)
    · rw [if_neg he] at hf
      refine (List.mem_cons.mp hf).imp_left ?_
      rintro rfl
      exact ⟨fun h => he (by rw [List.reverse_eq_nil_iff.mp h]; rfl), fun b hb => hc b (List.mem_reverse.mp hb)⟩
  induction s with
  | nil => exact fun cur hc f hf => (flush cur [] hc f hf).resolve_right List.not_mem_nil
  | cons x xs ih =>
    intro cur hc f hf
    rw [fieldsAux] at hf
    by_cases hx : isSpace x = true
    · rw [if_pos hx] at hf
      exact (flush cur _ hc f hf).elim id (ih [] (fun _ h => nomatch h) f)
    · rw [if_neg hx] at hf
      exact ih (x :: cur) (fun b hb => (List.mem_cons.mp hb).elim (fun e => e ▸ Bool.eq_false_iff.mpr hx) (hc b)) f hf

theorem fields_mem {s f : Bytes} (h : f ∈ fields s) : f ≠ [] ∧ ∀ b ∈ f, isSpace b = false :=
  fieldsAux_mem s [] (by simp) f h

theorem fieldsAux_append (w : Bytes) (hw : ∀ b ∈ w, isSpace b = false) : ∀ (cur rest : Bytes),
    fieldsAux cur (w ++ rest) = fieldsAux (w.reverse ++ cur) rest := by
  induction w with
  | nil => intro cur rest; rfl
  | cons x xs ih =>
    intro cur rest
    rw [List.cons_append, fieldsAux, if_neg (by rw [hw x List.mem_cons_self]; exact Bool.false_ne_true),
      ih (fun b hb => hw b (List.mem_cons_of_mem _ hb)), List.reverse_cons, List.append_assoc]
    rfl

theorem reverse_collected (w cur : Bytes) : (w.reverse ++ cur).reverse = cur.reverse ++ w := by
  rw [List.reverse_append, List.reverse_reverse]

theorem fieldsAux_nospace (t : Bytes) (ht : ∀ b ∈ t, isSpace b = false) (cur : Bytes) :
    fieldsAux cur t = if (cur.reverse ++ t).isEmpty then [] else [cur.reverse ++ t] := by
  have h := fieldsAux_append t ht cur []
  rwa [List.append_nil, fieldsAux, ← List.isEmpty_reverse, reverse_collected] at h

theorem fieldsAux_word (w : Bytes) (hw : ∀ b ∈ w, isSpace b = false) (sp : UInt8) (hsp : isSpace sp = true) (rest cur : Bytes)
    (hne : cur.reverse ++ w ≠ []) : fieldsAux cur (w ++ sp :: rest) = (cur.reverse ++ w) :: fieldsAux [] rest := by
  have hne' : ¬ (w.reverse ++ cur).isEmpty = true := fun h =>
    hne (by rw [← reverse_collected, List.isEmpty_iff.mp h]; rfl)
  rw [fieldsAux_append w hw, fieldsAux, if_pos hsp, if_neg hne', reverse_collected]

theorem fields_bearer {t : Bytes} (hne : t ≠ []) (ht : ∀ b ∈ t, isSpace b = false) :
    fields (bearer ++ 32 :: t) = [bearer, t] := by
  rw [fields, fieldsAux_word bearer (by decide) 32 (by decide) t [] (by decide), fieldsAux_nospace t ht [],
    if_neg (by simpa using hne)]
  rfl

theorem keyValid_iff (ok : Bytes → Bool) (hdr : Bytes) :
    keyValid ok hdr = true ↔ ∃ t rest, fields hdr = bearer :: t :: rest ∧ ok t = true := by
  unfold keyValid
  constructor
  · intro h
    split at h
    · rename_i f0 f1 rest heq
      rw [Bool.and_eq_true, beq_iff_eq] at h
      exact ⟨f1, rest, by rw [heq, h.1], h.2⟩
    · cases h
  · rintro ⟨t, rest, hf, hok⟩
    rw [hf]
    exact Bool.and_eq_true_iff.mpr ⟨beq_self_eq_true _, hok⟩

theorem bearer_of_gate {tok : Bytes} {ok : Bytes → Bool} {hdr : Bytes} (hg : gate tok ok hdr = true) (h1 : hdr ≠ tok) :
    ∃ t rest, fields hdr = bearer :: t :: rest ∧ ok t = true :=
  (keyValid_iff ok hdr).mp ((Bool.or_eq_true_iff.mp hg).resolve_left (mt beq_iff_eq.mp h1))

/-- `n` hangs off "root" through the edges `ks`, walking upward along at least one edge -/
inductive PathToRoot (ks : List EK) : Bytes → Prop
  | direct (n : Bytes) : (rootS, n) ∈ ks → PathToRoot ks n
  | via (n : Bytes) (k : EK) : k ∈ ks → k.2 = n → PathToRoot ks k.1 → PathToRoot ks n

theorem checkPath_succ (lv : List Edge) (fuel : Nat) (id : Bytes) : checkPath lv (fuel + 1) id = true ↔
    ∃ e, (e ∈ lv ∧ e.down = id) ∧ (e.up = rootS ∨ checkPath lv fuel e.up = true) := by
  simp only [checkPath, List.any_eq_true, List.mem_filter, beq_iff_eq, Bool.or_eq_true]

theorem checkPath_sound {lv : List Edge} {fuel : Nat} {id : Bytes} (h : checkPath lv fuel id = true) :
    PathToRoot (keysOf lv) id := by
  induction fuel generalizing id with
  | zero => cases h
  | succ fuel ih =>
    obtain ⟨e, ⟨he, hd⟩, hup | hrec⟩ := (checkPath_succ ..).mp h
    · exact .direct id (mem_keysOf.mpr ⟨e, he, hup, hd⟩)
    · exact .via id (keyOf e) (List.mem_map_of_mem he) hd (ih hrec)

theorem checkPath_complete {lv : List Edge} (r : Bytes → Nat) (hr : ∀ k ∈ keysOf lv, r k.1 < r k.2) {fuel : Nat} {id : Bytes}
    (hlt : r id < fuel) (hp : PathToRoot (keysOf lv) id) : checkPath lv fuel id = true := by
  induction fuel generalizing id with
  | zero => cases hlt
  | succ fuel ih =>
    rw [checkPath_succ]
    cases hp with
    | direct _ hk =>
      obtain ⟨e, he, hup, hd⟩ := mem_keysOf.mp hk
      exact ⟨e, ⟨he, hd⟩, Or.inl hup⟩
    | via _ k hk hkn hrest =>
      obtain ⟨e, he, hup, hd⟩ := mem_keysOf.mp hk
      have hr' := hr k hk
      rw [hkn, ← hup] at hr'
      rw [← hup] at hrest
      exact ⟨e, ⟨he, hd.trans hkn⟩, Or.inr (ih (by omega) hrest)⟩

theorem mem_userCheck {isDel : Nat → Bool} {st : St} {email pass : Bytes} {u : Bytes × Bytes} :
    u ∈ userCheck isDel st email pass ↔ ∃ e ∈ st.edges, e.typ = userT ∧
      (textOf (ptsOf st e.down) emailT = email ∧ textOf (ptsOf st e.down) passT = pass) ∧
      (∃ e' ∈ live isDel st, e'.down = e.down ∧ (e'.down, e'.up) = u) ∧
      checkPath (live isDel st) (2 ^ st.edges.length) u.1 = true := by
  simp only [userCheck, List.mem_filter, List.mem_flatMap, List.mem_map, beq_iff_eq, List.mem_ite_nil_left,
    List.mem_ite_nil_right, Bool.and_eq_true]
  constructor
  · rintro ⟨⟨_, ⟨e, ⟨he, ht⟩, rfl⟩, _, hc, e', he', hu⟩, hp⟩
    exact ⟨e, he, ht, hc, ⟨e', he'.1, he'.2, hu⟩, hp⟩
  · rintro ⟨e, he, ht, hc, ⟨e', he', hd, hu⟩, hp⟩
    refine ⟨⟨_, ⟨e, ⟨he, ht⟩, rfl⟩, ?_, hc, e', ⟨he', hd⟩, hu⟩, hp⟩
    intro h
    have : e' ∈ (live isDel st).filter (fun x => x.down == e.down) := List.mem_filter.mpr ⟨he', beq_iff_eq.mpr hd⟩
    rw [List.isEmpty_iff.mp h] at this
    cases this

/-- `x` lies below `top` through the edges `ks` (at least one edge) -/
inductive Below (ks : List EK) (top : Bytes) : Bytes → Prop
  | child (x : Bytes) : (top, x) ∈ ks → Below ks top x
  | deeper (x : Bytes) (k : EK) : k ∈ ks → k.2 = x → Below ks top k.1 → Below ks top x

theorem Below.trans_child {ks : List EK} {top mid x : Bytes} (h : Below ks mid x) (h1 : (top, mid) ∈ ks) : Below ks top x := by
  induction h with
  | child x hx => exact .deeper x (mid, x) hx rfl (.child mid h1)
  | deeper x k hk hkx _ ih => exact .deeper x k hk hkx ih

theorem getChildren_sound {lv : List Edge} {fuel : Nat} {top : Bytes} {x : Bytes × Bytes} (h : x ∈ getChildren lv fuel top) :
    Below (keysOf lv) top x.1 ∧ (x.2, x.1) ∈ keysOf lv := by
  induction fuel generalizing top with
  | zero => cases h
  | succ fuel ih =>
    simp only [getChildren, List.mem_append, List.mem_flatMap, List.mem_filter, beq_iff_eq, List.mem_map] at h
    rcases h with ⟨c, ⟨hc, hup⟩, hx⟩ | ⟨e, ⟨he, hup⟩, rfl⟩
    · exact ⟨(ih hx).1.trans_child (mem_keysOf.mpr ⟨c, hc, hup, rfl⟩), (ih hx).2⟩
    · exact ⟨.child _ (mem_keysOf.mpr ⟨e, he, hup, rfl⟩), mem_keysOf.mpr ⟨e, he, rfl, rfl⟩⟩

theorem mem_listing {isDel : Nat → Bool} {st : St} {uid : Bytes} {x : Bytes × Bytes} :
    x ∈ listing isDel st uid ↔ ∃ un, (un ∈ live isDel st ∧ un.down = uid) ∧
      ((∃ e, (e ∈ live isDel st ∧ e.down = un.up) ∧ (e.down, rootS) = x) ∨
        x ∈ getChildren (live isDel st) (2 ^ st.edges.length) un.up) := by
  rw [listing, List.mem_eraseDups]
  simp only [List.mem_flatMap, List.mem_filter, beq_iff_eq, List.mem_append, List.mem_map]

end Siot.Auth
