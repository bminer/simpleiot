import Siot.Lemmas.Sync
import Siot.Lemmas.SyncPts
import Siot.Lemmas.StoreRows
import Siot.Lemmas.StoreShape
/-
The exchange of points at one node (`syncExchange`): on either store the selected points of the node, then those of its
edge, one write request per point (`writeAll`). What these requests leave alone (`Kept`; for the pair of stores `Local`), the
rows they leave, and that the two copies of the node and of its edge agree afterwards.
-/
namespace Siot.Sync
open Siot Siot.Store Siot.Export

/-- the store holds the same for node `m` — its points and the points of every edge into it — in `st'` as in `st` -/
def Same (st st' : St) (m : Bytes) : Prop := ptsOf st' m = ptsOf st m ∧ ∀ u, eptsOf st' u m = eptsOf st u m

theorem Same.refl (st : St) (m : Bytes) : Same st st m := ⟨rfl, fun _ => rfl⟩
theorem Same.trans {a b c : St} {m : Bytes} (h1 : Same a b m) (h2 : Same b c m) : Same a c m :=
  ⟨h2.1.trans h1.1, fun u => (h2.2 u).trans (h1.2 u)⟩

/-- from `st` to `st'` by write requests that left the tree, the root, and what the store holds for every node outside `D` as
    they were -/
structure Kept (D : Bytes → Prop) (st st' : St) : Prop where
  writes : Writes st st'
  tree : shapes st' = shapes st
  root : st'.root = st.root
  same : ∀ m, ¬ D m → Same st st' m

theorem Kept.refl (D : Bytes → Prop) (st : St) : Kept D st st := ⟨.refl, rfl, rfl, fun m _ => .refl st m⟩

theorem Kept.trans {D : Bytes → Prop} {a b c : St} (h1 : Kept D a b) (h2 : Kept D b c) : Kept D a c :=
  ⟨h1.writes.trans h2.writes, h2.tree.trans h1.tree, h2.root.trans h1.root, fun m hm => (h1.same m hm).trans (h2.same m hm)⟩

theorem Kept.mono {D D' : Bytes → Prop} {st st' : St} (h : Kept D st st') (hD : ∀ m, D m → D' m) : Kept D' st st' :=
  ⟨h.writes, h.tree, h.root, fun m hm => h.same m fun hd => hm (hD m hd)⟩

/-- the same of both stores of a pair: a stretch of the pass that stays inside `D` -/
def Local (D : Bytes → Prop) (s s' : Pair) : Prop := Kept D s.a s'.a ∧ Kept D s.b s'.b

theorem Local.refl (D : Bytes → Prop) (s : Pair) : Local D s s := ⟨.refl D _, .refl D _⟩

theorem Local.trans {D : Bytes → Prop} {a b c : Pair} (h1 : Local D a b) (h2 : Local D b c) : Local D a c :=
  ⟨h1.1.trans h2.1, h1.2.trans h2.2⟩

theorem Local.mono {D D' : Bytes → Prop} {s s' : Pair} (h : Local D s s') (hD : ∀ m, D m → D' m) : Local D' s s' :=
  ⟨h.1.mono hD, h.2.mono hD⟩

theorem tryNP_cases (st : St) (id : Bytes) (pts : List Point) :
    tryNP st id pts = st ∨ tryNP st id pts = nodeWrite st id (collapse (pts.map normPoint)) := by
  rw [tryNP_eq]
  obtain h | ⟨st', h, hw⟩ := step_cases st (.np id pts) <;> rw [h]
  · exact .inl rfl
  · cases hw
    exact .inr rfl

theorem tryEP_cases (st : St) (id parent : Bytes) (pts : List Point) :
    tryEP st id parent pts = st ∨ tryEP st id parent pts = edgeWrite st (upOf parent) id (edgeBatch pts) ∨
      (upOf parent, id) ∉ keysOf st.edges ∧ tryEP st id parent pts = edgeInsert st (upOf parent) id (edgeType pts) (edgeBatch pts) := by
  rw [tryEP_eq]
  obtain h | ⟨st', h, hw⟩ := step_cases st (.ep id parent pts) <;> rw [h]
  · exact .inl rfl
  · cases hw with
    | write => exact .inr (.inl rfl)
    | insert _ _ _ _ _ _ hk => exact .inr (.inr ⟨hk, rfl⟩)

theorem nodePoints_frame {st st' : St} {id : Bytes} {pts : List Point} (h : nodePoints st id pts = .ok st') :
    shapes st' = shapes st ∧ st'.root = st.root ∧ st'.edgePts = st.edgePts := by
  cases nodePoints_ok_iff.mp h
  exact ⟨shapes_nodeWrite .., rfl, rfl⟩

theorem tryNP_frame_ep (st : St) (id : Bytes) (pts : List Point) : (tryNP st id pts).edgePts = st.edgePts := by
  unfold tryNP
  cases h : nodePoints st id pts with
  | ok st' => exact (nodePoints_frame h).2.2
  | _ => rfl

theorem tryNP_kept (st : St) (id : Bytes) (pts : List Point) : Kept (· = id) st (tryNP st id pts) := by
  have hw := (Writes.refl (s := st)).tryNP id pts
  obtain h | h := tryNP_cases st id pts <;> rw [h] at hw ⊢
  · exact .refl _ st
  · exact ⟨hw, shapes_nodeWrite .., rfl, fun m hm => ⟨by rw [ptsOf_nodeWrite, if_neg hm], fun _ => rfl⟩⟩

theorem tryEP_frame_np (st : St) (id parent : Bytes) (pts : List Point) : (tryEP st id parent pts).nodePts = st.nodePts := by
  obtain h | h | ⟨_, h⟩ := tryEP_cases st id parent pts <;> rw [h] <;> rfl

theorem edgePointsCore_nodePts {st st' : St} {node u : Bytes} {pts : List Point} (h : edgePointsCore st node u pts = .ok st') :
    st'.nodePts = st.nodePts := by
  obtain ⟨_, rfl⟩ | ⟨_, _, _, rfl⟩ := edgePointsCore_ok_iff.mp h <;> rfl

/-- edge points for `id`, written or refused, an edge inserted or not: nothing changes for another node -/
theorem tryEP_same (st : St) (id parent : Bytes) (pts : List Point) (m : Bytes) (hm : m ≠ id) : Same st (tryEP st id parent pts) m := by
  have hk : ∀ u, ¬(u, m) = (upOf parent, id) := fun u h => hm (Prod.mk.inj h).2
  obtain h | h | ⟨_, h⟩ := tryEP_cases st id parent pts <;> rw [h]
  · exact .refl st m
  · exact ⟨rfl, fun u => by rw [eptsOf_edgeWrite, if_neg (hk u)]⟩
  · exact ⟨rfl, fun u => by rw [eptsOf_edgeInsert, if_neg (hk u), List.append_nil]⟩

theorem tryEP_kept (st : St) (id parent : Bytes) (pts : List Point) (hp : parent ≠ []) (hex : (parent, id) ∈ keysOf st.edges) :
    Kept (· = id) st (tryEP st id parent pts) := by
  have hw := (Writes.refl (s := st)).tryEP id parent pts
  have hs := tryEP_same st id parent pts
  obtain h | h | ⟨hk, h⟩ := tryEP_cases st id parent pts <;> rw [h] at hw hs ⊢
  · exact .refl _ st
  · exact ⟨hw, shapes_edgeWrite .., rfl, hs⟩
  · exact absurd hex (upOf_of_ne_nil hp ▸ hk)

theorem collapse_single (q : Point) : collapse [q] = [q] := rfl

theorem tryNP_single (st : St) (id : Bytes) (p : Point) (hnan : isNaN p.value = false) :
    tryNP st id [p] = nodeWrite st id [normPoint p] := by
  unfold tryNP
  rw [nodePoints_eq, if_neg (by simp [hnan])]
  rfl

theorem tryEP_single (st : St) (id parent : Bytes) (p : Point) (hp : parent ≠ []) (hne : id ≠ parent) (hr : id ≠ st.root)
    (hnan : isNaN p.value = false) (hty : p.type ≠ nodeTypeT) (hex : (parent, id) ∈ keysOf st.edges) :
    tryEP st id parent [p] = edgeWrite st parent id [normPoint p] := by
  have hb : edgeBatch [p] = [normPoint p] := List.filter_eq_self.mpr fun q hq => by
    rw [List.mem_singleton.mp hq]
    exact bne_iff_ne.mpr hty
  unfold tryEP
  have hw := Wrote.write (st := st) id parent [p] hne (fun h => hr h.1) (by simp [hnan]) (by rw [upOf_of_ne_nil hp]; exact hex)
  rw [edgePoints_ok_iff.mpr hw, hb, upOf_of_ne_nil hp]

/-- one side of the exchange: the selected node points, then the selected edge points, one write request per point -/
def writeAll (st : St) (id parent : Bytes) (ps es : List Point) : St :=
  es.foldl (fun a p => tryEP a id parent [p]) (ps.foldl (fun a p => tryNP a id [p]) st)

theorem syncExchange_eq (s : Pair) (nl nu : NE) :
    syncExchange s nl nu =
      let pp := syncPts nl.pts nu.pts
      let ee := if nl.id == s.a.root then ([], []) else syncPts nl.epts nu.epts
      { s with a := writeAll s.a nl.id nl.parent pp.2 ee.2, b := writeAll s.b nu.id nu.parent pp.1 ee.1 } := rfl

theorem nodeFold_kept (st : St) (id : Bytes) (ps : List Point) :
    Kept (· = id) st (ps.foldl (fun a p => tryNP a id [p]) st) ∧ (ps.foldl (fun a p => tryNP a id [p]) st).edgePts = st.edgePts :=
  List.foldlRecOn (motive := fun st' => Kept (· = id) st st' ∧ st'.edgePts = st.edgePts) ps _ ⟨.refl _ st, rfl⟩
    fun st' h p _ => ⟨h.1.trans (tryNP_kept st' id [p]), (tryNP_frame_ep st' id [p]).trans h.2⟩

theorem edgeFold_kept {st : St} {id parent : Bytes} (es : List Point) (hp : parent ≠ []) (hex : (parent, id) ∈ keysOf st.edges) :
    Kept (· = id) st (es.foldl (fun a p => tryEP a id parent [p]) st) :=
  List.foldlRecOn (motive := Kept (· = id) st) _ _ (.refl _ st)
    fun st' h p _ => h.trans (tryEP_kept st' id parent [p] hp (shape_keys _ _ h.tree ▸ hex))

theorem foldl_tryEP_ptsOf (pts : List Point) (st : St) (id parent : Bytes) (n : Bytes) :
    ptsOf (pts.foldl (fun a p => tryEP a id parent [p]) st) n = ptsOf st n := by
  have h : (pts.foldl (fun a p => tryEP a id parent [p]) st).nodePts = st.nodePts :=
    List.foldlRecOn (motive := fun st' => st'.nodePts = st.nodePts) _ _ rfl
      fun st' h p _ => (tryEP_frame_np st' id parent [p]).trans h
  unfold ptsOf
  rw [h]

theorem writeAll_kept {st : St} {id parent : Bytes} {ps es : List Point} (hp : parent ≠ []) (hex : (parent, id) ∈ keysOf st.edges) :
    Kept (· = id) st (writeAll st id parent ps es) :=
  have hnode := (nodeFold_kept st id ps).1
  hnode.trans (edgeFold_kept es hp (shape_keys _ _ hnode.tree ▸ hex))

/-- `ea` and `eb` are the two copies, downstream and upstream, of the edge `p → n` -/
structure Copies (s : Pair) (p n : Bytes) (ea eb : Edge) : Prop where
  ma : ea ∈ s.a.edges
  mb : eb ∈ s.b.edges
  ua : ea.up = p
  da : ea.down = n
  ub : eb.up = p
  db : eb.down = n

theorem exchange_local {s : Pair} {p n : Bytes} {ea eb : Edge} (h : Copies s p n ea eb) (hp : p ≠ []) :
    Local (· = n) s (syncExchange s (neOf s.a ea) (neOf s.b eb)) :=
  ⟨(writeAll_kept (h.ua ▸ hp) (mem_keysOf.mpr ⟨ea, h.ma, rfl, rfl⟩)).mono fun _ hm => hm.trans h.da,
    (writeAll_kept (h.ub ▸ hp) (mem_keysOf.mpr ⟨eb, h.mb, rfl, rfl⟩)).mono fun _ hm => hm.trans h.db⟩

/-- requests that each merge one point into the same rows (while `ok` holds) leave what the merge loop leaves -/
theorem foldl_rowsAfter {f : St → Point → St} {rows : St → List Point} {ok : St → Prop} (pts : List Point) (st : St) (h0 : ok st)
    (h : ∀ st, ok st → ∀ p ∈ pts, ok (f st p) ∧ rows (f st p) = (mergeBatch (rows st) [normPoint p]).1) :
    rows (pts.foldl f st) = rowsAfter (rows st) (pts.map (fun q => [q])) := by
  induction pts generalizing st with
  | nil => rfl
  | cons p ps ih =>
    obtain ⟨h1, h2⟩ := h st h0 p (List.mem_cons_self ..)
    rw [List.foldl_cons, ih _ h1 (fun st hs q hq => h st hs q (List.mem_cons_of_mem _ hq)), h2]
    rfl

theorem writeAll_pts {st : St} {id parent : Bytes} {ps es : List Point} (hnan : ∀ p ∈ ps, isNaN p.value = false) :
    ptsOf (writeAll st id parent ps es) id = rowsAfter (ptsOf st id) (ps.map (fun q => [q])) := by
  unfold writeAll
  rw [foldl_tryEP_ptsOf]
  refine foldl_rowsAfter (rows := fun st => ptsOf st id) (ok := fun _ => True) ps st trivial fun st _ p hp => ⟨trivial, ?_⟩
  rw [tryNP_single st id p (hnan p hp), ptsOf_nodeWrite, if_pos rfl]

theorem writeAll_epts {st : St} {id parent : Bytes} {ps es : List Point} (hp : parent ≠ []) (hne : id ≠ parent) (hr : id ≠ st.root)
    (hok : ∀ p ∈ es, isNaN p.value = false ∧ p.type ≠ nodeTypeT) (hex : (parent, id) ∈ keysOf st.edges) :
    eptsOf (writeAll st id parent ps es) parent id = rowsAfter (eptsOf st parent id) (es.map (fun q => [q])) := by
  unfold writeAll
  obtain ⟨hkept, hframe⟩ := nodeFold_kept st id ps
  generalize ps.foldl (fun a p => tryNP a id [p]) st = st1 at hkept hframe
  have h0 : eptsOf st parent id = eptsOf st1 parent id := by unfold eptsOf; rw [hframe]
  rw [h0]
  -- `ok`: the edge is still there and the node is still not the root, so the next request is accepted as a write to that edge
  refine foldl_rowsAfter (rows := fun st => eptsOf st parent id) (ok := fun st' => (parent, id) ∈ keysOf st'.edges ∧ id ≠ st'.root)
    es _ ⟨shape_keys _ _ hkept.tree ▸ hex, hkept.root ▸ hr⟩ fun st' ⟨hex', hr'⟩ p hp' => ?_
  have hstep := tryEP_kept st' id parent [p] hp hex'
  refine ⟨⟨shape_keys _ _ hstep.tree ▸ hex', hstep.root ▸ hr'⟩, ?_⟩
  rw [tryEP_single st' id parent p hp hne hr' (hok p hp').1 (hok p hp').2 hex', eptsOf_edgeWrite, if_pos rfl]

/-- the node rows after the exchange: on either side what its merge loop makes of the points `syncPts` selects for it -/
theorem syncExchange_node_rows (s : Pair) {nl nu : NE} (hid : nu.id = nl.id)
    (hl : nl.pts = ptsOf s.a nl.id) (hu : nu.pts = ptsOf s.b nl.id)
    (hsl : StoredRows (ptsOf s.a nl.id)) (hsu : StoredRows (ptsOf s.b nl.id)) :
    ptsOf (syncExchange s nl nu).a nl.id =
      rowsAfter (ptsOf s.a nl.id) ((syncPts (ptsOf s.a nl.id) (ptsOf s.b nl.id)).2.map (fun q => [q])) ∧
    ptsOf (syncExchange s nl nu).b nl.id =
      rowsAfter (ptsOf s.b nl.id) ((syncPts (ptsOf s.a nl.id) (ptsOf s.b nl.id)).1.map (fun q => [q])) := by
  rw [syncExchange_eq, hl, hu]
  simp only [hid]
  exact ⟨writeAll_pts fun p hp => (hsu p (toDown_sub hp)).2, writeAll_pts fun p hp => (hsl p (toUp_sub hp)).2⟩

theorem syncExchange_edge_rows {s : Pair} {p n : Bytes} {ea eb : Edge} (h : Copies s p n ea eb) (hp : p ≠ []) (hnp : n ≠ p)
    (hra : n ≠ s.a.root) (hrb : n ≠ s.b.root)
    (hla : ∀ q ∈ eptsOf s.a p n, isNaN q.value = false ∧ q.type ≠ nodeTypeT)
    (hlb : ∀ q ∈ eptsOf s.b p n, isNaN q.value = false ∧ q.type ≠ nodeTypeT) :
    eptsOf (syncExchange s (neOf s.a ea) (neOf s.b eb)).a p n =
      rowsAfter (eptsOf s.a p n) ((syncPts (eptsOf s.a p n) (eptsOf s.b p n)).2.map (fun q => [q])) ∧
    eptsOf (syncExchange s (neOf s.a ea) (neOf s.b eb)).b p n =
      rowsAfter (eptsOf s.b p n) ((syncPts (eptsOf s.a p n) (eptsOf s.b p n)).1.map (fun q => [q])) := by
  have hxa : (p, n) ∈ keysOf s.a.edges := mem_keysOf.mpr ⟨ea, h.ma, h.ua, h.da⟩
  have hxb : (p, n) ∈ keysOf s.b.edges := mem_keysOf.mpr ⟨eb, h.mb, h.ub, h.db⟩
  rw [syncExchange_eq]
  simp only [neOf, h.ua, h.da, h.ub, h.db, beq_eq_false_iff_ne.mpr hra, Bool.false_eq_true, if_false]
  exact ⟨writeAll_epts hp hnp hra (fun q hq => hlb q (toDown_sub hq)) hxa, writeAll_epts hp hnp hrb (fun q hq => hla q (toUp_sub hq)) hxb⟩

def AgreeN (s : Pair) (m : Bytes) : Prop := ∀ p, p ∈ ptsOf s.a m ↔ p ∈ ptsOf s.b m

def AgreeE (s : Pair) (u d : Bytes) : Prop := ∀ p, p ∈ eptsOf s.a u d ↔ p ∈ eptsOf s.b u d

/-- the rows of node `m` on both sides are stored rows, and two different points of one identity never share a time stamp -/
structure RowsOk (s : Pair) (m : Bytes) : Prop where
  sl : StoredRows (ptsOf s.a m)
  su : StoredRows (ptsOf s.b m)
  adm : Admissible (ptsOf s.a m ++ ptsOf s.b m)

/-- the same for the rows of the edge (u, d); the node type is never an edge row -/
structure ERowsOk (s : Pair) (u d : Bytes) : Prop where
  sl : StoredRows (eptsOf s.a u d)
  su : StoredRows (eptsOf s.b u d)
  adm : Admissible (eptsOf s.a u d ++ eptsOf s.b u d)
  tl : ∀ p ∈ eptsOf s.a u d, p.type ≠ nodeTypeT
  tu : ∀ p ∈ eptsOf s.b u d, p.type ≠ nodeTypeT

theorem syncExchange_agree {s : Pair} {p n : Bytes} {ea eb : Edge} (h : Copies s p n ea eb) (ia : Inv s.a) (ib : Inv s.b)
    (hp : p ≠ []) (hnp : n ≠ p) (hra : n ≠ s.a.root) (hrb : n ≠ s.b.root) (hr : RowsOk s n) (her : ERowsOk s p n) :
    AgreeN (syncExchange s (neOf s.a ea) (neOf s.b eb)) n ∧ AgreeE (syncExchange s (neOf s.a ea) (neOf s.b eb)) p n := by
  have uNa : IdUnique (ptsOf s.a n) := ia.npu n
  have uNb : IdUnique (ptsOf s.b n) := ib.npu n
  have uEa : IdUnique (eptsOf s.a p n) := ia.epu (p, n)
  have uEb : IdUnique (eptsOf s.b p n) := ib.epu (p, n)
  constructor <;> intro q
  · have hid : (neOf s.b eb).id = (neOf s.a ea).id := h.db.trans h.da.symm
    obtain ⟨ha, hb⟩ := syncExchange_node_rows s hid rfl (congrArg (ptsOf s.b) hid)
      (by rw [neOf_id, h.da]; exact hr.sl) (by rw [neOf_id, h.da]; exact hr.su)
    rw [neOf_id, h.da] at ha hb
    rw [ha, hb]
    obtain ⟨hdown, hup⟩ := syncPts_converge _ _ uNa uNb (fun x hx => (hr.sl x hx).1) (fun x hx => (hr.su x hx).1) hr.adm q
    exact hdown.trans hup.symm
  · obtain ⟨ha, hb⟩ := syncExchange_edge_rows h hp hnp hra hrb
      (fun x hx => ⟨(her.sl x hx).2, her.tl x hx⟩) (fun x hx => ⟨(her.su x hx).2, her.tu x hx⟩)
    rw [ha, hb]
    obtain ⟨hdown, hup⟩ := syncPts_converge _ _ uEa uEb (fun x hx => (her.sl x hx).1) (fun x hx => (her.su x hx).1) her.adm q
    exact hdown.trans hup.symm

end Siot.Sync
