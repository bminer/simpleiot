import Siot.Lemmas.ExportStore
import Siot.Lemmas.ExportTree
import Siot.Lemmas.StoreRows
/-
C15 on the store model: what `SendNode` of an exported node leaves in a store that does not know the node, and that
exporting it again gives the node back (points, edge points, type, parent).
-/
namespace Siot.Export
open Siot Siot.Store

/-- a row as the store keeps it: key normalised, no -0, no NaN, stamped -/
def RowOk (p : Point) : Prop := p.key ≠ [] ∧ p.value ≠ negZero ∧ isNaN p.value = false ∧ p.time ≠ 0

theorem RowOk.of_good {p : Point} (hg : RowGood p) (ht : p.time ≠ 0) : RowOk p := by
  have h1 : normKey p.key = p.key := congrArg Point.key hg.1
  have h2 : (if p.value = negZero then 0 else p.value) = p.value := congrArg Point.value hg.1
  refine ⟨fun hk => ?_, fun hv => ?_, hg.2, ht⟩
  · rw [hk] at h1
    cases h1
  · rw [hv] at h2
    cases h2

theorem blankKey_time (p : Point) : (blankKey p).time = p.time := by unfold blankKey; split <;> rfl
theorem blankKey_type (p : Point) : (blankKey p).type = p.type := by unfold blankKey; split <;> rfl
theorem blankKey_value (p : Point) : (blankKey p).value = p.value := by unfold blankKey; split <;> rfl

theorem norm_blankKey (p : Point) : normPoint (blankKey p) = normPoint p := by
  unfold blankKey
  split
  · rename_i h
    simp [normPoint, normKey, h, zeroKey]
  · rfl

theorem norm_blank {p : Point} (h : RowOk p) : normPoint (blankKey p) = p := by
  rw [norm_blankKey, normPoint, normKey, if_neg h.2.1, if_neg (by simpa using h.1)]

theorem stamp_blank (now : Int) {p : Point} (h : RowOk p) : stamp now (blankKey p) = blankKey p :=
  if_neg (by rw [blankKey_time]; exact h.2.2.2)

theorem rows_back (now : Int) {ps : List Point} (h : ∀ p ∈ ps, RowOk p) :
    ((ps.map blankKey).map (stamp now)).map normPoint = ps := by
  rw [List.map_map, List.map_map]
  exact (List.map_congr_left fun p hp => by
    simp only [Function.comp, stamp_blank now (h p hp), norm_blank (h p hp), id]).trans (List.map_id ps)

theorem rows_no_nan (now : Int) {ps : List Point} (h : ∀ p ∈ ps, RowOk p) :
    ((ps.map blankKey).map (stamp now)).any (fun p => isNaN p.value) = false := by
  rw [List.map_map, List.any_map, List.any_eq_false]
  intro p hp
  simp only [Function.comp, stamp_blank now (h p hp), blankKey_value, (h p hp).2.2.1]
  decide

def keepE (p : Point) : Bool := !(p.type == tombstoneT && (p.value == 0 || p.value == negZero))

theorem keepE_iff (q : Point) : keepE q = true ↔ ¬ (q.type = tombstoneT ∧ (q.value = 0 ∨ q.value = negZero)) := by
  rw [keepE, Bool.not_eq_true', ← Bool.not_eq_true, Bool.and_eq_true, Bool.or_eq_true, beq_iff_eq, beq_iff_eq, beq_iff_eq]

theorem exportEdgePts_eq (eps : List Point) : exportEdgePts eps = (eps.filter keepE).map blankKey := by
  rw [exportEdgePts, List.filter_map]
  congr 1
  apply List.filter_congr
  intro p _
  simp only [Function.comp, keepE, blankKey_type, blankKey_value]

/-- a node as `exportNodesHelper` writes it: its points and edge points are stored rows (`ps`, `eps`) in exported form -/
structure Exported (n : NodeRec) (ps eps : List Point) : Prop where
  pts : n.pts = ps.map blankKey
  epts : n.epts = exportEdgePts eps
  pok : ∀ p ∈ ps, RowOk p
  pu : IdUnique ps
  eok : ∀ p ∈ eps, RowOk p ∧ p.type ≠ nodeTypeT
  eu : IdUnique eps

/-- the edge rows the store holds after the import: the exported ones, plus a tombstone-0 point when they carry none -/
def storedE (eps : List Point) (now : Int) : List Point :=
  eps.filter keepE ++ (if hasTombE (eps.filter keepE) then [] else [{ type := tombstoneT, key := zeroKey, time := now }])

theorem storedE_eq_withMark (eps : List Point) (now : Int) :
    storedE eps now = withMark (eps.filter keepE) (hasTombE (eps.filter keepE)) now := rfl

theorem export_storedE (eps : List Point) (now : Int) : exportEdgePts (storedE eps now) = exportEdgePts eps := by
  rw [exportEdgePts_eq, exportEdgePts_eq, storedE, List.filter_append,
    List.filter_eq_self.mpr fun a ha => (List.mem_filter.mp ha).2]
  cases hasTombE (eps.filter keepE) <;> exact congrArg _ (List.append_nil _)

theorem blankKey_key {p : Point} (h : p.key ≠ []) :
    ((blankKey p).key == []) = (p.key == zeroKey) ∧ ((blankKey p).key == zeroKey) = false := by
  unfold blankKey
  split
  · rename_i hz; rw [hz]; exact ⟨rfl, rfl⟩
  · rename_i hz; exact ⟨(beq_false_of_ne h).trans (beq_false_of_ne hz).symm, beq_false_of_ne hz⟩

theorem hasTomb_blank {k : List Point} (hk : ∀ p ∈ k, p.key ≠ []) : hasTomb (k.map blankKey) = hasTombE k := by
  rw [hasTomb, List.any_map]
  exact any_congr_of_mem fun p hp => by
    simp only [Function.comp, blankKey_type, blankKey_key (hk p hp), Bool.or_false]

theorem sendNode_fresh (st : St) (n : NodeRec) (ps eps : List Point) (now : Int)
    (hex : Exported n ps eps) (hf : Fresh st n.id) (hid : n.id ≠ [])
    (hp : n.parent ≠ [] ∧ n.parent ≠ noneS ∧ n.parent ≠ rootS ∧ n.parent ≠ n.id) (ht : n.typ ≠ []) :
    ∃ st', sendNode st n now = .ok st' ∧
      st'.edges.map shape = st.edges.map shape ++ [(n.parent, n.id, n.typ)] ∧
      (∀ y, ptsOf st' y = if y = n.id then ps else ptsOf st y) ∧
      (∀ u d, eptsOf st' u d = if (u, d) = (n.parent, n.id) then storedE eps now else eptsOf st u d) ∧
      st'.root = st.root := by
  have hK : n.epts = (eps.filter keepE).map blankKey := hex.epts.trans (exportEdgePts_eq eps)
  have hKok : ∀ p ∈ eps.filter keepE, RowOk p := fun p hp => (hex.eok p (List.mem_filter.mp hp).1).1
  have hnt : ∀ p ∈ eps.filter keepE, p.type ≠ nodeTypeT := fun p hp => (hex.eok p (List.mem_filter.mp hp).1).2
  obtain ⟨st', hsend, hadd⟩ := sendNode_sent (st := st) (n := n) (ps := ps) (E := storedE eps now) (now := now)
    { rows := hex.pts ▸ rows_back now hex.pok
      nan := hex.pts ▸ rows_no_nan now hex.pok
      uniq := hex.pu
      erows := (sentEdge_norm ..).trans (by rw [hK, hasTomb_blank fun p hp => (hKok p hp).1, rows_back now hKok, storedE])
      enan := sentEdge_no_nan (hK ▸ rows_no_nan now hKok) ..
      euniq := storedE_eq_withMark eps now ▸ withMark_unique (hex.eu.sublist List.filter_sublist) hnt (fun h => h) _ _
      ntype := rfl
      etype := storedE_eq_withMark eps now ▸ withMark_type hnt _ _ } hf hid hp ht
  exact ⟨st', hsend, hadd.tree, hadd.pts, hadd.epts, hadd.root⟩

/-- the tombstone value of stored edge rows (`Points.Find(tombstone, "")` on keys normalised to "0") -/
def tombE (l : List Point) : Nat :=
  match l.find? (fun p => p.type == tombstoneT && p.key == zeroKey) with
  | some p => p.value
  | none => 0

/-- the same on the exported form (key "0" written as "") -/
def tombX (l : List Point) : Nat :=
  match l.find? (fun p => p.type == tombstoneT && p.key == []) with
  | some p => p.value
  | none => 0

theorem edgeTomb_eq (st : St) (e : Edge) : edgeTomb st e = tombE (eptsOf st e.up e.down) := rfl

theorem tombX_map_blank {l : List Point} (h : ∀ p ∈ l, p.key ≠ []) : tombX (l.map blankKey) = tombE l := by
  rw [tombX, tombE, List.find?_map, find?_congr_of_mem (q := fun p => p.type == tombstoneT && p.key == zeroKey) fun p hp => by
    simp only [Function.comp, blankKey_type, (blankKey_key (h p hp)).1]]
  cases l.find? _ with
  | none => rfl
  | some p => exact blankKey_value p

theorem tomb_storedE {eps : List Point} (now : Int) (hok : ∀ p ∈ eps, RowOk p) :
    tombE (storedE eps now) = tombX (exportEdgePts eps) := by
  rw [exportEdgePts_eq, tombX_map_blank fun p hp => (hok p (List.mem_filter.mp hp).1).1, storedE]
  split
  · rw [List.append_nil]
  · rename_i h
    have : (eps.filter keepE).find? (fun p => p.type == tombstoneT && p.key == zeroKey) = none := by
      rwa [← Option.not_isSome_iff_eq_none, List.isSome_find?]
    rw [tombE, tombE, List.find?_append, this]
    rfl

/-- what `ImportNodes` sends for one node -/
structure NodeOk (n : NodeRec) : Prop where
  exported : ∃ ps eps, Exported n ps eps
  id : n.id ≠ []
  typ : n.typ ≠ []
  parent : n.parent ≠ [] ∧ n.parent ≠ noneS ∧ n.parent ≠ rootS ∧ n.parent ≠ n.id

/-- the record read for an edge of this shape, when the rows of the node and of the edge are those of `n` in exported form -/
theorem recOf_of_shape {st : St} {e : Edge} {n : NodeRec} (hs : shape e = (n.parent, n.id, n.typ))
    (hp : (ptsOf st n.id).map blankKey = n.pts) (he : exportEdgePts (eptsOf st n.parent n.id) = n.epts) : recOf st e = n := by
  obtain ⟨hup, hdown, htyp⟩ := shape_eq hs
  rw [recOf, hup, hdown, htyp, hp, he]

/-- the whole file is sent, node after node: each node is unknown when its turn comes, because no earlier node has its id or
    names it as parent -/
theorem sendAll_fresh : ∀ (f : Flat) (st : St) (now : Int),
    (∀ x ∈ f, NodeOk x.2 ∧ Fresh st x.2.id) → f.Pairwise (fun a b => b.2.id ≠ a.2.id ∧ b.2.id ≠ a.2.parent) →
    ∃ st', sendAll st f now = .ok st' ∧
      st'.edges.map shape = st.edges.map shape ++ f.map shapeOf ∧
      (∀ x ∈ f, (ptsOf st' x.2.id).map blankKey = x.2.pts ∧ exportEdgePts (eptsOf st' x.2.parent x.2.id) = x.2.epts ∧
        tombE (eptsOf st' x.2.parent x.2.id) = tombX x.2.epts) ∧
      (∀ y, (∀ x ∈ f, x.2.id ≠ y) → ptsOf st' y = ptsOf st y) ∧
      (∀ u d, (∀ x ∈ f, x.2.id ≠ d) → eptsOf st' u d = eptsOf st u d) ∧
      st'.root = st.root := by
  intro f
  induction f with
  | nil =>
    exact fun st now _ _ => ⟨st, rfl, (List.append_nil _).symm, fun x hx => absurd hx List.not_mem_nil, fun _ _ => rfl, fun _ _ _ => rfl, rfl⟩
  | cons x rest ih =>
    intro st now hall hpw
    obtain ⟨d, n⟩ := x
    obtain ⟨hlater, hpw⟩ := List.pairwise_cons.mp hpw
    obtain ⟨hok, hfr⟩ := hall (d, n) (List.mem_cons_self ..)
    obtain ⟨ps, eps, hex⟩ := hok.exported
    obtain ⟨st1, hsend1, hsh1, hpt1, hep1, hroot1⟩ := sendNode_fresh st n ps eps now hex hfr hok.id hok.parent hok.typ
    obtain ⟨st', hsend, hsh, hrows, hpt, hep, hroot⟩ := ih st1 (now + 1)
      (fun y hy => ⟨(hall y (List.mem_cons_of_mem _ hy)).1,
        (hall y (List.mem_cons_of_mem _ hy)).2.step (hlater y hy).1 (hlater y hy).2 ⟨hsh1, hpt1, hep1, hroot1⟩⟩) hpw
    have hother : ∀ z ∈ rest, z.2.id ≠ n.id := fun z hz => (hlater z hz).1
    refine ⟨st', ?_, ?_, fun y hy => ?_, fun y hy => ?_, fun u dd hy => ?_, hroot.trans hroot1⟩
    · rw [sendAll, hsend1]
      exact hsend
    · rw [hsh, hsh1, List.append_assoc]
      rfl
    · rcases List.mem_cons.mp hy with rfl | hy
      · -- the rows of `n` were written in the first step and not touched by the rest
        have hp : ptsOf st' n.id = ps := by rw [hpt n.id hother, hpt1, if_pos rfl]
        have he : eptsOf st' n.parent n.id = storedE eps now := by rw [hep n.parent n.id hother, hep1, if_pos rfl]
        show _ = n.pts ∧ _ = n.epts ∧ _ = tombX n.epts
        rw [hp, he, export_storedE, tomb_storedE now fun p hp => (hex.eok p hp).1, hex.pts, hex.epts]
        exact ⟨rfl, rfl, rfl⟩
      · exact hrows y hy
    · rw [hpt y fun z hz => hy z (List.mem_cons_of_mem _ hz), hpt1, if_neg fun h => hy (d, n) (List.mem_cons_self ..) h.symm]
    · rw [hep u dd fun z hz => hy z (List.mem_cons_of_mem _ hz), hep1,
        if_neg fun h => hy (d, n) (List.mem_cons_self ..) (Prod.mk.inj h).2.symm]

end Siot.Export
