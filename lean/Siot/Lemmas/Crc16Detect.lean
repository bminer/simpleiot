import Siot.Lemmas.Crc16Order
import Siot.Lemmas.Basic
/-
Index-based error classes on a bit string, and their detection: a burst of at most 16 bits or a
one- or two-bit error in fewer than 32767 bits leaves the register non-zero.
-/
namespace Siot.Crc16
open Siot

/-- bit `j` of `bs` is set; of an error pattern: bit `j` of the packet is flipped -/
def IsTrue (bs : List Bool) (j : Nat) : Prop := bs[j]? = some true

def Burst16 (bs : List Bool) : Prop := (∃ j, IsTrue bs j) ∧ ∃ i, ∀ j, IsTrue bs j → i ≤ j ∧ j ≤ i + 15

def AtMostTwo (bs : List Bool) : Prop := (∃ j, IsTrue bs j) ∧ ∃ i1 i2, ∀ j, IsTrue bs j → j = i1 ∨ j = i2

theorem isTrue_cons_succ {b : Bool} {bs : List Bool} {j : Nat} : IsTrue (b :: bs) (j + 1) ↔ IsTrue bs j := Iff.rfl

theorem isTrue_append_right (a b : List Bool) (k : Nat) : IsTrue (a ++ b) (a.length + k) ↔ IsTrue b k := by
  rw [IsTrue, IsTrue, List.getElem?_append_right (Nat.le_add_right _ k), Nat.add_sub_cancel_left]

theorem isTrue_zeros_append (f : Nat) (bs : List Bool) (k : Nat) : IsTrue (zeros f ++ bs) (f + k) ↔ IsTrue bs k := by
  rw [← isTrue_append_right (zeros f) bs k, zeros_length]

theorem isTrue_zeros (n j : Nat) : ¬ IsTrue (zeros n) j := by
  simp [IsTrue, zeros, List.getElem?_replicate]

theorem Burst16.tail {bs : List Bool} (h : Burst16 (false :: bs)) : Burst16 bs := by
  obtain ⟨⟨j, hj⟩, i, hw⟩ := h
  cases j with
  | zero => cases hj
  | succ j =>
    refine ⟨⟨j, hj⟩, i - 1, fun k hk => ?_⟩
    have hk' : i ≤ k + 1 ∧ k + 1 ≤ i + 15 := hw (k + 1) (isTrue_cons_succ.mpr hk)
    omega

theorem AtMostTwo.tail {bs : List Bool} (h : AtMostTwo (false :: bs)) : AtMostTwo bs := by
  obtain ⟨⟨j, hj⟩, i1, i2, hw⟩ := h
  cases j with
  | zero => cases hj
  | succ j =>
    exact ⟨⟨j, hj⟩, i1 - 1, i2 - 1, fun k hk =>
      (hw (k + 1) (isTrue_cons_succ.mpr hk)).imp Nat.eq_sub_of_add_eq Nat.eq_sub_of_add_eq⟩

theorem all_false (bs : List Bool) (h : ∀ j, ¬ IsTrue bs j) : bs = zeros bs.length := by
  induction bs with
  | nil => rfl
  | cons b bs ih =>
    cases b
    · rw [List.length_cons, zeros_succ, ← ih fun j hj => h (j + 1) (isTrue_cons_succ.mpr hj)]
    · exact absurd rfl (h 0)

theorem first_true (bs : List Bool) (h : ∃ j, IsTrue bs j) :
    ∃ f rest, bs = zeros f ++ true :: rest := by
  induction bs with
  | nil =>
    obtain ⟨j, hj⟩ := h
    cases hj
  | cons b bs ih =>
    cases b
    · obtain ⟨j, hj⟩ := h
      cases j with
      | zero => cases hj
      | succ j =>
        obtain ⟨f, rest, hr⟩ := ih ⟨j, isTrue_cons_succ.mp hj⟩
        exact ⟨f + 1, rest, by rw [zeros_succ, List.cons_append, ← hr]⟩
    · exact ⟨0, bs, rfl⟩

theorem trues_below (rest : List Bool) (n : Nat) (h : ∀ k, IsTrue rest k → k < n) :
    ∃ w m, w.length ≤ n ∧ rest = w ++ zeros m := by
  induction rest generalizing n with
  | nil => exact ⟨[], 0, Nat.zero_le n, rfl⟩
  | cons b rest ih =>
    cases n with
    | zero => exact ⟨[], (b :: rest).length, Nat.le_refl 0, all_false _ fun j hj => Nat.not_lt_zero j (h j hj)⟩
    | succ n =>
      obtain ⟨w, m, hw, hr⟩ := ih n fun k hk => Nat.lt_of_succ_lt_succ (h (k + 1) (isTrue_cons_succ.mpr hk))
      exact ⟨b :: w, m, Nat.succ_le_succ hw, congrArg (b :: ·) hr⟩

/-- a burst as a bit string: zeros, a one-bit, at most 15 further bits, zeros -/
theorem burst_shape (bs : List Bool) (h : Burst16 bs) :
    ∃ i w m, w.length ≤ 15 ∧ bs = zeros i ++ (true :: w) ++ zeros m := by
  induction bs with
  | nil =>
    obtain ⟨⟨j, hj⟩, _⟩ := h
    cases hj
  | cons b bs ih =>
    cases b
    · obtain ⟨i, w, m, hw, hbs⟩ := ih h.tail
      exact ⟨i + 1, w, m, hw, by rw [zeros_succ, List.cons_append, List.cons_append, ← hbs]⟩
    · obtain ⟨_, i, hwin⟩ := h
      have h0 : i ≤ 0 ∧ 0 ≤ i + 15 := hwin 0 rfl
      obtain ⟨w, m, hw, hbs⟩ := trues_below bs 15 fun k hk => by
        have hk' : i ≤ k + 1 ∧ k + 1 ≤ i + 15 := hwin (k + 1) (isTrue_cons_succ.mpr hk)
        omega
      exact ⟨0, w, m, hw, congrArg (true :: ·) hbs⟩

/-- a one- or two-bit error as a bit string; `d` is the distance of the two one-bits -/
theorem two_shape (bs : List Bool) (h : AtMostTwo bs) :
    (∃ i m, bs = zeros i ++ (true :: []) ++ zeros m) ∨
    (∃ i d m, 1 ≤ d ∧ d < bs.length ∧ bs = zeros i ++ [true] ++ zeros (d - 1) ++ [true] ++ zeros m) := by
  induction bs with
  | nil =>
    obtain ⟨⟨j, hj⟩, _⟩ := h
    cases hj
  | cons b bs ih =>
    cases b
    · rcases ih h.tail with ⟨i, m, hbs⟩ | ⟨i, d, m, hd, hdl, hbs⟩
      · exact .inl ⟨i + 1, m, by rw [zeros_succ, List.cons_append, List.cons_append, ← hbs]⟩
      · exact .inr ⟨i + 1, d, m, hd, Nat.lt_succ_of_lt hdl, by
          rw [zeros_succ, List.cons_append, List.cons_append, List.cons_append, List.cons_append, ← hbs]⟩
    · obtain ⟨_, i1, i2, htwo⟩ := h
      have h0 : 0 = i1 ∨ 0 = i2 := htwo 0 rfl
      by_cases hr : ∃ k, IsTrue bs k
      · -- a second one-bit, at `g` in `bs`: nothing is set behind it
        obtain ⟨g, rest, hbs⟩ := first_true bs hr
        have hg : IsTrue bs g := by
          rw [hbs]
          exact (isTrue_zeros_append g (true :: rest) 0).mpr rfl
        have hz : rest = zeros rest.length := all_false rest fun j hj => by
          have hj' : IsTrue bs (g + (j + 1)) := by
            rw [hbs]
            exact (isTrue_zeros_append g (true :: rest) (j + 1)).mpr (isTrue_cons_succ.mpr hj)
          have h1 : g + 1 = i1 ∨ g + 1 = i2 := htwo (g + 1) (isTrue_cons_succ.mpr hg)
          have h2 : g + (j + 1) + 1 = i1 ∨ g + (j + 1) + 1 = i2 := htwo (g + (j + 1) + 1) (isTrue_cons_succ.mpr hj')
          omega
        refine .inr ⟨0, g + 1, rest.length, Nat.succ_le_succ (Nat.zero_le g),
          Nat.succ_lt_succ (List.getElem?_eq_some_iff.mp hg).1, ?_⟩
        rw [hbs, hz, zeros_length]
        exact congrArg (true :: ·) (List.append_assoc (zeros g) [true] _).symm
      · exact .inl ⟨0, bs.length, congrArg (true :: ·) (all_false bs fun j hj => hr ⟨j, hj⟩)⟩

/-- A set bit at place `n` or above is not shifted out by input whose one-bits all come before step `n`: a step moves
it down one place at most, and only a one-bit fed at place 0 removes it. `n = 0`: idle steps never clear the register. -/
theorem run_ne_zero (bs : List Bool) : ∀ n s, s < 2 ^ 16 → 2 ^ n ≤ s → (∀ k, IsTrue bs k → k < n) →
    run s bs ≠ 0 := by
  induction bs with
  | nil => intro n s _ hn _; exact Nat.ne_of_gt (Nat.lt_of_lt_of_le (Nat.two_pow_pos n) hn)
  | cons b bs ih =>
    intro n s hs hn h
    refine ih (n - 1) _ (step_lt s b hs) (step_ge s b n hs hn fun h0 => ?_) fun k hk => ?_
    · cases b
      · rfl
      · exact absurd (h 0 rfl) (by omega)
    · have hk' : k + 1 < n := h (k + 1) (isTrue_cons_succ.mpr hk)
      omega

/-- a second one-bit at distance `d` would leave `x^d + 1`: `run_zeros_poly_ne` -/
theorem run_idle_ne_zero (bs : List Bool) : ∀ j, (∀ k k', IsTrue bs k → IsTrue bs k' → k = k') →
    bs.length + j < 32767 → run (run poly (zeros j)) bs ≠ 0 := by
  induction bs with
  | nil => intro j _ _; exact run_ne_zero _ 15 poly poly_lt (by decide) fun k hk => absurd hk (isTrue_zeros j k)
  | cons b bs ih =>
    intro j hu hl
    rw [List.length_cons] at hl
    have hlt := run_lt (zeros j) poly poly_lt
    cases b
    · rw [run, ← run_zeros_succ]
      refine ih (j + 1) (fun k k' hk hk' => Nat.succ.inj ?_) (by omega)
      exact hu (k + 1) (k' + 1) (isTrue_cons_succ.mpr hk) (isTrue_cons_succ.mpr hk')
    · refine run_ne_zero bs 0 _ (step_lt _ _ hlt) (Nat.pos_of_ne_zero ?_) fun k hk =>
        nomatch hu (k + 1) 0 (isTrue_cons_succ.mpr hk) rfl
      rw [step_true, ← run_zeros_succ]
      intro h
      exact run_zeros_poly_ne (j + 1) (by omega) (by omega) (eq_of_xor_eq_zero h)

theorem detect_bits (bs : List Bool) (hlen : bs.length < 32767) (h : Burst16 bs ∨ AtMostTwo bs) :
    run 0 bs ≠ 0 := by
  induction bs with
  | nil => obtain ⟨j, hj⟩ := h.elim (·.1) (·.1); cases hj
  | cons b bs ih =>
    cases b
    · exact ih (Nat.lt_of_succ_lt hlen) (h.imp Burst16.tail AtMostTwo.tail)
    · rw [run, step_one_zero]
      rcases h with ⟨_, i, hw⟩ | ⟨_, i1, i2, hw⟩
      · have h0 : i ≤ 0 ∧ 0 ≤ i + 15 := hw 0 rfl
        refine run_ne_zero bs 15 poly poly_lt (by decide) fun k hk => ?_
        have hk' : i ≤ k + 1 ∧ k + 1 ≤ i + 15 := hw (k + 1) (isTrue_cons_succ.mpr hk)
        omega
      · have h0 : 0 = i1 ∨ 0 = i2 := hw 0 rfl
        refine run_idle_ne_zero bs 0 (fun k k' hk hk' => ?_) (Nat.lt_of_succ_lt hlen)
        have h1 : k + 1 = i1 ∨ k + 1 = i2 := hw (k + 1) (isTrue_cons_succ.mpr hk)
        have h2 : k' + 1 = i1 ∨ k' + 1 = i2 := hw (k' + 1) (isTrue_cons_succ.mpr hk')
        omega

end Siot.Crc16
