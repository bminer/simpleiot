import Siot.Lemmas.Crc16
/-
The multiplicative order of x modulo the KERMIT polynomial is 32767. The half of it that detection
needs: shifting the LFSR state `poly` (the state after a single one-bit) by d zero bits does not
return to `poly` for 0 < d < 32767. The kernel runs the register through all 32766 steps
(`decide +kernel`).
-/
namespace Siot.Crc16

/-- `step · false`, in the operations the kernel computes on literals by itself. Written with the
notation (`/`, `^^^`, `==`, `if`) a step costs four times as much to evaluate. -/
def shift (s : Nat) : Nat := Nat.xor (Nat.div s 2) (Nat.mul poly (Nat.mod s 2))

theorem shift_eq (s : Nat) : shift s = step s false := by
  show s / 2 ^^^ poly * (s % 2) = _
  unfold step
  rcases Nat.mod_two_eq_zero_or_one s with h | h <;> simp [h]

/-- `w` checks `n` steps: `w k s` holds only if none of the `n` states after `s` is `poly` and the
continuation `k` accepts the `n`-th. The continuation is there for the kernel, which evaluates
lazily: a state is handed on only after it has been compared with `poly`, hence computed, so the
states are computed one after the other and never pile up as a chain of suspended steps. -/
def Sweeps (n : Nat) (w : (Nat → Bool) → Nat → Bool) : Prop :=
  ∀ k s, w k s = true → (∀ i, 1 ≤ i → i ≤ n → run s (zeros i) ≠ poly) ∧ k (run s (zeros n)) = true

theorem Sweeps.comp {m n v w} (hv : Sweeps m v) (hw : Sweeps n w) : Sweeps (m + n) (fun k => v (w k)) := by
  intro k s h
  obtain ⟨h1, h2⟩ := hv _ s h
  obtain ⟨h3, h4⟩ := hw _ _ h2
  refine ⟨fun i hi1 hi2 => ?_, by rw [run_zeros_add]; exact h4⟩
  by_cases hi : i ≤ m
  · exact h1 i hi1 hi
  · have := h3 (i - m) (by omega) (by omega)
    rwa [← run_zeros_add, show m + (i - m) = i by omega] at this

/-- one step; `casesOn` is one unfolding less for the kernel than `match` or `bif` -/
def one (k : Nat → Bool) (s : Nat) : Bool := (Nat.beq (shift s) poly).casesOn (k (shift s)) false

theorem sweeps_one : Sweeps 1 one := by
  intro k s h
  rw [one, shift_eq] at h
  cases hb : Nat.beq (step s false) poly <;> rw [hb] at h
  · refine ⟨fun i h1 h2 => ?_, h⟩
    obtain rfl : i = 1 := by omega
    exact Nat.ne_of_beq_eq_false hb
  · cases h

/-- from `n` steps to `2 * n + 2` -/
def next (w : (Nat → Bool) → Nat → Bool) (k : Nat → Bool) : Nat → Bool := one (one (w (w k)))

theorem Sweeps.next {n w} (h : Sweeps n w) : Sweeps (1 + (1 + (n + n))) (next w) :=
  sweeps_one.comp (sweeps_one.comp (h.comp h))

theorem sweeps_id : Sweeps 0 (fun k => k) := fun _ _ h => ⟨fun _ _ _ => by omega, h⟩

/-- `n ↦ 2 * n + 2` fourteen times from 0: 2^15 - 2 = 32766 steps -/
theorem order_sweep :
    next (next (next (next (next (next (next (next (next (next (next (next (next (next (fun k => k))))))))))))))
      (fun _ => true) poly = true := by
  decide +kernel

/-- x^d ≢ 1 for 0 < d < 32767 -/
theorem run_zeros_poly_ne (d : Nat) (h1 : 1 ≤ d) (h2 : d < 32767) : run poly (zeros d) ≠ poly :=
  (sweeps_id.next.next.next.next.next.next.next.next.next.next.next.next.next.next _ _ order_sweep).1
    d h1 (by omega)

end Siot.Crc16
