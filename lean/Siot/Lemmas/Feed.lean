import Siot.Model.Feed
import Siot.Lemmas.LWW
/- Lemmas for C08 (Siot/Model/Feed.lean): what one write makes the client hear, and the fold theorem. The store's merge
   loop and the client's fold are each characterised by look-up: both hold, per identity, the last delivery. -/
namespace Siot.Feed
open Siot Siot.Store

/-- `told` makes one copy of the callbacks `L` for every occurrence of the client among the subjects `l` -/
theorem mem_copies {β} (l : List Bytes) (cid : Bytes) (L : List β) (x : β) :
    x ∈ (l.filter (· == cid)).flatMap (fun _ => L) ↔ cid ∈ l ∧ x ∈ L := by
  simp only [List.mem_flatMap, List.mem_filter, beq_iff_eq]
  exact ⟨fun ⟨_, ⟨hc, hcid⟩, hx⟩ => ⟨hcid ▸ hc, hx⟩, fun ⟨hc, hx⟩ => ⟨cid, ⟨hc, rfl⟩, hx⟩⟩

theorem mem_told_np (isEven : Nat → Bool) (st : St) (cid n : Bytes) (pts : List Point) (x : Told) :
    x ∈ told isEven st cid (.np n pts) ↔ cid ∈ pubsNode isEven st n ∧ x ∈ onNode cid n pts :=
  mem_copies _ cid _ x

theorem mem_told_ep (isEven : Nat → Bool) (st : St) (cid n par : Bytes) (pts : List Point) (x : Told) :
    x ∈ told isEven st cid (.ep n par pts) ↔ cid ∈ pubsEdge st n ∧ x ∈ onEdge n par pts :=
  mem_copies _ cid _ x

/-- per identity, later deliveries carry later-or-equal times (said with list splits; every proof goes through `mono_iff`) -/
def Mono (ds : List Point) : Prop :=
  ∀ a p b q c, ds = a ++ p :: b ++ q :: c → sameId p q = true → p.time ≤ q.time

def NotNewer (rows ds : List Point) : Prop := ∀ r ∈ rows, ∀ d ∈ ds, sameId r d = true → r.time ≤ d.time

theorem mono_iff {ds : List Point} : Mono ds ↔ ds.Pairwise (fun p q => sameId p q = true → p.time ≤ q.time) := by
  constructor
  · intro h
    induction ds with
    | nil => exact .nil
    | cons p ps ih =>
      refine List.pairwise_cons.mpr ⟨fun q hq hs => ?_, ih fun a x b y c hl => h (p :: a) x b y c (by rw [hl]; rfl)⟩
      obtain ⟨b, c, rfl⟩ := List.append_of_mem hq
      exact h [] p b q c rfl hs
  · intro h a p b q c hl
    subst hl
    exact (List.pairwise_append.mp h).2.2 p (by simp) q (by simp)

theorem mono_cons {p : Point} {ps : List Point} :
    Mono (p :: ps) ↔ (∀ d ∈ ps, sameId p d = true → p.time ≤ d.time) ∧ Mono ps := by
  simp only [mono_iff, List.pairwise_cons]

theorem mono_append {a b : List Point} : Mono (a ++ b) ↔ Mono a ∧ Mono b ∧ NotNewer a b := by
  simp only [mono_iff, List.pairwise_append, NotNewer]

theorem idUnique_mono {l : List Point} (hu : IdUnique l) : Mono l :=
  mono_iff.mpr (List.Pairwise.imp (fun h hs => by rw [h] at hs; cases hs) hu)

def lk (rows : List Point) (x : Point) : Option Point := rows.find? (sameId x)

theorem lk_append (a b : List Point) (x : Point) : lk (a ++ b) x = (lk a x).or (lk b x) := List.find?_append

theorem lk_singleton (q x : Point) : lk [q] x = if sameId x q then some q else none := List.find?_singleton

theorem mem_iff_lk {l : List Point} (hu : IdUnique l) {p : Point} : p ∈ l ↔ lk l p = some p := by
  refine ⟨fun hp => ?_, List.mem_of_find?_eq_some⟩
  cases h : lk l p with
  | none => exact absurd (sameId_refl p) (by simp [find_sameId_eq_none.mp h p hp])
  | some r =>
    obtain ⟨hr, hs⟩ := find_sameId h
    rw [idUnique_eq hu hp hr hs]

theorem lk_congr {x q : Point} (h : sameId x q = true) (rows : List Point) : lk rows x = lk rows q := by
  rw [lk, funext (sameId_congr h)]
  rfl

theorem putN_of_none {rows : List Point} {q : Point} (h : lk rows q = none) : putN rows q = rows ++ [q] := by
  rw [putN, show rows.find? (sameId q) = none from h]

theorem putN_of_some {rows : List Point} {q old : Point} (h : lk rows q = some old) :
    putN rows q = rows.map (fun r => if sameId q r then q else r) := by
  rw [putN, show rows.find? (sameId q) = some old from h]

/-- replacing rows by a point of their own identity leaves every test `sameId x ·` as it was: the look-up finds the same
    row, replaced -/
theorem lk_replace (rows : List Point) (q x : Point) :
    lk (rows.map (fun r => if sameId q r then q else r)) x = (lk rows x).map (fun r => if sameId q r then q else r) := by
  have hfun : sameId x ∘ (fun r => if sameId q r then q else r) = sameId x := by
    funext r
    by_cases hqr : sameId q r = true
    · rw [Function.comp_apply, if_pos hqr, sameId_symm x q, sameId_symm x r, sameId_congr hqr]
    · rw [Function.comp_apply, if_neg hqr]
  rw [lk, List.find?_map, hfun]
  rfl

theorem lk_putN (rows : List Point) (q x : Point) :
    lk (putN rows q) x = if sameId x q then some q else lk rows x := by
  cases hf : lk rows q with
  | none =>
    -- no row has `q`'s identity: `q` is appended, and a look-up of that identity passes the rows and finds it
    rw [putN_of_none hf, lk_append, lk_singleton]
    by_cases hx : sameId x q = true
    · rw [lk_congr hx, hf, if_pos hx]
      rfl
    · rw [if_neg hx, if_neg hx, Option.or_none]
  | some old =>
    -- the row `old` of `q`'s identity is replaced by `q`
    rw [putN_of_some hf, lk_replace]
    by_cases hx : sameId x q = true
    · rw [lk_congr hx, hf, if_pos hx, Option.map_some, if_pos (find_sameId hf).2]
    · -- a row of another identity stays as it is
      rw [if_neg hx]
      cases hr : lk rows x with
      | none => rfl
      | some r =>
        have hqr : ¬ sameId q r = true := by rwa [sameId_symm q r, ← sameId_congr (find_sameId hr).2]
        rw [Option.map_some, if_neg hqr]

theorem lk_foldPut (x : Point) (l rows : List Point) : lk (l.foldl putN rows) x = (lk l.reverse x).or (lk rows x) := by
  induction l generalizing rows with
  | nil => rfl
  | cons q l ih =>
    rw [List.foldl_cons, ih, lk_putN, List.reverse_cons, lk_append, Option.or_assoc, lk_singleton]
    split <;> rfl

theorem foldView_eq (view : List Point) (pts : List Point) : foldView view pts = (pts.map normPoint).foldl putN view := by
  unfold foldView
  rw [List.foldl_map]
  rfl

theorem putN_idUnique {rows : List Point} (hu : IdUnique rows) (q : Point) : IdUnique (putN rows q) := by
  cases hf : lk rows q with
  | none => exact putN_of_none hf ▸ idUnique_append hu hf
  | some old => exact putN_of_some hf ▸ idUnique_replace q hu

-- the store layer says the same of its own functions under `mem_replace`, `mem_upsert`, `mem_mergeBatch`
theorem putN_mem {rows : List Point} {q r : Point} (h : r ∈ putN rows q) : r ∈ rows ∨ r = q := by
  cases hf : lk rows q with
  | none =>
    rw [putN_of_none hf] at h
    simpa using h
  | some old =>
    rw [putN_of_some hf] at h
    exact (mem_replace rows q r h).symm.imp_left And.left

theorem foldPut_idUnique {l rows : List Point} (h : IdUnique rows) : IdUnique (l.foldl putN rows) :=
  List.foldlRecOn l putN h fun _ h q _ => putN_idUnique h q

theorem foldPut_mem {l rows : List Point} {r : Point} (h : r ∈ l.foldl putN rows) : r ∈ rows ∨ r ∈ l := by
  induction l generalizing rows with
  | nil => exact Or.inl h
  | cons q l ih =>
    rcases ih h with h | h
    · exact (putN_mem h).imp_right fun e => List.mem_cons.mpr (Or.inl e)
    · exact Or.inr (List.mem_cons_of_mem _ h)

theorem upsert_eq_putN {rows : List Point} {p : Point} (hacc : ∀ old, lk rows p = some old → old.time ≤ p.time) :
    upsert rows p = putN rows p := by
  unfold upsert putN
  cases hf : rows.find? (sameId p) with
  | none => rfl
  | some old => exact if_pos (hacc old hf)

/-- when no delivery is refused (nothing stored is newer), the merge loop IS the fold of `putN` -/
theorem mergeBatch_eq_fold {l rows : List Point} (hb : NotNewer rows l) (hm : Mono l) : (mergeBatch rows l).1 = l.foldl putN rows := by
  rw [mergeBatch_fst]
  induction l generalizing rows with
  | nil => rfl
  | cons p ps ih =>
    obtain ⟨hp, hps⟩ := mono_cons.mp hm
    have e : upsert rows p = putN rows p := upsert_eq_putN fun old hf =>
      hb old (find_sameId hf).1 p List.mem_cons_self (sameId_symm p old ▸ (find_sameId hf).2)
    rw [List.foldl_cons, List.foldl_cons, e]
    refine ih (fun r hr d hd hs => ?_) hps
    rcases putN_mem hr with hr | rfl
    · exact hb r hr d (List.mem_cons_of_mem _ hd) hs
    · exact hp d hd hs

theorem collapse_last (x : Point) {b : List Point} (hm : Mono b) : lk (collapse b).reverse x = lk b.reverse x := by
  have hcons : ∀ p l, lk (p :: l).reverse x = (lk l.reverse x).or (lk [p] x) := fun p l => by
    rw [List.reverse_cons, lk_append]
  induction b with
  | nil => rfl
  | cons p ps ih =>
    obtain ⟨hp, hmps⟩ := mono_cons.mp hm
    rw [hcons, ← ih hmps]
    simp only [collapse]
    cases hf : (collapse ps).find? (sameId p) with
    | none => exact hcons p _
    | some q =>
      obtain ⟨hq, hs⟩ := find_sameId hf
      have hqps : q ∈ ps := (collapse_spec ps).2.1 q hq
      simp only [Int.not_lt.mpr (hp q hqps hs), if_false]
      rw [lk_singleton]
      split
      · -- `Collapse` has kept `q` of `p`'s identity, so the look-up finds something after `p`
        rename_i hxp
        exact (Option.or_of_isSome (List.find?_isSome.mpr ⟨q, List.mem_reverse.mpr hq, sameId_trans hxp hs⟩)).symm
      · exact Option.or_none.symm

/-- the store's rows after any batches: per identity the last delivery, or else the row there was -/
theorem lk_rowsAfter (x : Point) {bs : List (List Point)} {rows : List Point} (hb : NotNewer rows (delivered bs))
    (hm : Mono (delivered bs)) : lk (rowsAfter rows bs) x = (lk (delivered bs).reverse x).or (lk rows x) := by
  induction bs generalizing rows with
  | nil => rfl
  | cons b bs ih =>
    have hd : delivered (b :: bs) = b.map normPoint ++ delivered bs := by simp [delivered]
    rw [hd] at hb hm ⊢
    obtain ⟨hmb, hmr, hbr⟩ := mono_append.mp hm
    obtain ⟨hcu, hcsub, _⟩ := collapse_spec (b.map normPoint)
    have hrows : (mergeBatch rows (collapse (b.map normPoint))).1 = (collapse (b.map normPoint)).foldl putN rows :=
      mergeBatch_eq_fold (fun r hr d hd => hb r hr d (List.mem_append_left _ (hcsub d hd))) (idUnique_mono hcu)
    rw [rowsAfter, ih ?_ hmr, hrows, lk_foldPut, collapse_last x hmb, List.reverse_append, lk_append, Option.or_assoc]
    intro r hr d hd hs
    rcases mem_mergeBatch hr with h | h
    · exact hb r h d (List.mem_append_right _ hd) hs
    · exact hbr r (hcsub r h) d hd hs

end Siot.Feed
