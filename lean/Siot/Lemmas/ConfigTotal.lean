import Siot.Lemmas.ConfigGroup
/-
C11: no loop of `SetValue` panics. Each loop stops with `ok` or `err`, goes on, or stops where `setScalar` panics — which it
never does; the indexed loop alone can leave its slice, and does not on a group that satisfies `GInv`.
-/
namespace Siot.Config
open Siot

variable {N : Num} {k : SKind}

theorem setScalar_no_panic (p : Point) (m : String) : setScalar N k p ≠ .panic m := by
  unfold setScalar
  split
  · nofun
  · -- per kind a constructor `ok …`; for the integers a range test between `ok` and `err`
    cases k <;> dsimp only
    case int => split <;> nofun
    case uint => split <;> nofun
    all_goals nofun

theorem setScalars_no_panic (ps : List Point) (v : SVal) (m : String) :
    (setScalars N k ps v).2 ≠ .panic m := by
  fun_induction setScalars N k ps v
  case case1 => nofun                                    -- no point left: `ok`
  case case2 ih => exact ih                              -- the value is set, the loop goes on
  case case3 => nofun                                    -- `setScalar` reports an error: `err`
  case case4 hs => exact absurd hs (setScalar_no_panic _ _)

theorem setPtrs_no_panic (ps : List Point) (v : Option SVal) (m : String) :
    (setPtrs N k ps v).2 ≠ .panic m := by
  fun_induction setPtrs N k ps v
  case case1 => nofun                                    -- no point left: `ok`
  case case2 ih => exact ih                              -- a tombstone: nil, the loop goes on
  case case3 ih => exact ih                              -- the pointee is set, the loop goes on
  case case4 => nofun                                    -- `setScalar` reports an error: `err`
  case case5 hs => exact absurd hs (setScalar_no_panic _ _)

theorem setMap_no_panic (ps : List Point) (kvs : List KV) (m : String) :
    (setMap N k ps kvs).2 ≠ .panic m := by
  fun_induction setMap N k ps kvs
  case case1 => nofun                                    -- no point left: `ok`
  case case2 ih => exact ih                              -- a tombstone: the entry is deleted, the loop goes on
  case case3 ih => exact ih                              -- the entry is set, the loop goes on
  case case4 => nofun                                    -- `setScalar` reports an error: `err`
  case case5 hs => exact absurd hs (setScalar_no_panic _ _)

theorem setStruct_no_panic (ps : List Point) (fs : Fields) (vs : List SVal) (m : String)
    (hl : fs.length = vs.length) : (setStruct N ps fs vs).2 ≠ .panic m := by
  fun_induction setStruct N ps fs vs
  case case1 => nofun                                    -- no field left: `ok`
  case case2 ih => exact ih (Nat.succ.inj hl)            -- the field's last point is set, the loop goes on
  case case3 => nofun                                    -- `setScalar` reports an error: `err`
  case case4 hs => exact absurd hs (setScalar_no_panic _ _)
  case case5 ih => exact ih (Nat.succ.inj hl)            -- no point for the field: it keeps its value
  case case6 => cases hl                                 -- a field without a value: excluded by `hl`

theorem setStruct_len (N : Num) (ps : List Point) : ∀ (fs : List (Bytes × SKind)) (vs : List SVal),
    fs.length = vs.length → (setStruct N ps fs vs).1.length = vs.length := by
  intro fs vs hl
  fun_induction setStruct N ps fs vs
  case case1 => rfl
  case case2 ih => exact congrArg (· + 1) (ih (Nat.succ.inj hl))
  case case3 => rfl                                      -- stopped: the struct as it was
  case case4 => rfl
  case case5 ih => exact congrArg (· + 1) (ih (Nat.succ.inj hl))
  case case6 => cases hl

/-- the index `SetValue` reads off the key is not negative, and inside a slice longer than `hi` if the point is live -/
theorem index_in_range {p : Point} {hi : Int} {n : Nat} (h : IndexUpTo hi p) (hn : hi < n) :
    0 ≤ indexOf p.key ∧ (tombOdd p.tomb = false → indexOf p.key < n) := by
  obtain ⟨i, hk, h0, hle⟩ := h
  rw [indexOf_of_keyIdx p i hk]
  exact ⟨h0, fun ht => Int.lt_of_le_of_lt (hle ht) hn⟩

theorem setIndexed_no_panic (hi : Int) (ps : List Point) (vs : List SVal) (del : List Int)
    (h : ∀ p ∈ ps, IndexUpTo hi p) (hlen : hi < vs.length) (m : String) :
    (setIndexed N k ps vs del).2.2 ≠ .panic m := by
  fun_induction setIndexed N k ps vs del
  case case1 => nofun                                    -- no point left: `ok`
  case case2 ih =>                                       -- a tombstone beyond the end is skipped
    exact ih (List.forall_mem_cons.mp h).2 hlen
  case case3 p _ _ _ _ dead _ hskip hout =>              -- an index out of range: the panic, which `GInv` excludes
    obtain ⟨h0, hlive⟩ := index_in_range (h p List.mem_cons_self) hlen
    refine absurd hout fun hout => hout.elim (Int.not_lt.mpr h0) fun hge => ?_
    -- the branch before did not skip the point, so it is no tombstone
    cases ht : dead with
    | false => exact Int.not_le.mpr (hlive ht) hge
    | true => exact hskip ⟨ht, hge⟩
  case case4 ih =>                                       -- the element is written
    exact ih (List.forall_mem_cons.mp h).2 (by rwa [List.length_set])
  case case5 => nofun                                    -- `setScalar` reports an error: `err`
  case case6 hs =>
    exact absurd hs (setScalar_no_panic _ _)

theorem setIndexed_len (N : Num) (k : SKind) :
    ∀ (ps : List Point) (vs : List SVal) (del : List Int), (setIndexed N k ps vs del).1.length = vs.length := by
  intro ps vs del
  fun_induction setIndexed N k ps vs del
  case case2 ih => exact ih                              -- a tombstone beyond the end is skipped
  case case4 ih => exact ih.trans (List.length_set ..)   -- the element is written in place
  all_goals rfl                                          -- stopped (`ok`, `err`, panic): the slice as it was

theorem ite_snd_ne {α : Type} {c : Prop} [Decidable c] {a b : α × Status} {s : Status} (ha : a.2 ≠ s) (hb : ¬c → b.2 ≠ s) :
    (if c then a else b).2 ≠ s := by
  split
  · exact ha
  · exact hb ‹_›

end Siot.Config
