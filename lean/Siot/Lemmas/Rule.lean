import Siot.Model.Rule
import Siot.Lemmas.Basic  -- for its `LawfulBEq UInt8` instance
/- The rule state machine: one specification per function, in terms of what is kept of the rule (`SameBut`, `SameActs`,
   `WithActs`), of which publications are bookkeeping (`Books`) and of the order of the others (`Segs`). -/
namespace Siot.Rule
open Siot

/-- `r'` is `r` except for its `error` text -/
structure SameBut (r r' : Rule) : Prop where
  id : r'.id = r.id
  active : r'.active = r.active
  conds : r'.conds = r.conds
  acts : r'.acts = r.acts
  actsInactive : r'.actsInactive = r.actsInactive

theorem SameBut.refl (r : Rule) : SameBut r r := ⟨rfl, rfl, rfl, rfl, rfl⟩
theorem SameBut.trans {a b c : Rule} (h1 : SameBut a b) (h2 : SameBut b c) : SameBut a c :=
  ⟨h2.id.trans h1.id, h2.active.trans h1.active, h2.conds.trans h1.conds, h2.acts.trans h1.acts,
   h2.actsInactive.trans h1.actsInactive⟩

theorem SameBut.withConds {a b : Rule} (h : SameBut a b) (l : List Cond) :
    SameBut { a with conds := l } { b with conds := l } :=
  ⟨h.id, h.active, rfl, h.acts, h.actsInactive⟩

@[simp] theorem send_type (rid n t : Bytes) (v : Nat) (x o : Bytes) : (send rid n t v x o).type = t := by
  unfold send; split <;> rfl
@[simp] theorem send_node (rid n t : Bytes) (v : Nat) (x o : Bytes) : (send rid n t v x o).node = n := by
  unfold send; split <;> rfl
@[simp] theorem send_value (rid n t : Bytes) (v : Nat) (x o : Bytes) : (send rid n t v x o).value = v := by
  unfold send; split <;> rfl
@[simp] theorem send_text (rid n t : Bytes) (v : Nat) (x o : Bytes) : (send rid n t v x o).text = x := by
  unfold send; split <;> rfl
theorem send_origin_other (rid n t : Bytes) (v : Nat) (x o : Bytes) (h : n ≠ rid) : (send rid n t v x o).origin = rid := by
  unfold send; simp [h]

/-- bookkeeping publications: condition / action / rule `active` and `error` points -/
def Book (o : Out) : Prop := o.type = sActive ∨ o.type = sError

def Books (l : List Out) : Prop := ∀ o ∈ l, Book o

theorem Books.nil : Books [] := nofun
theorem Books.cons {o : Out} {l : List Out} (h : Book o) (hl : Books l) : Books (o :: l) :=
  List.forall_mem_cons.mpr ⟨h, hl⟩
theorem Books.append {l l' : List Out} (h : Books l) (h' : Books l') : Books (l ++ l') :=
  List.forall_mem_append.mpr ⟨h, h'⟩
theorem Books.ite {c : Prop} [Decidable c] {o : Out} (h : Book o) : Books (if c then [o] else []) := by
  split
  · exact .cons h .nil
  · exact .nil
theorem Books.count {l : List Out} (h : Books l) {o : Out} (ho : ¬ Book o) : l.count o = 0 :=
  List.count_eq_zero.mpr fun hm => ho (h o hm)

theorem book_active {rid n : Bytes} {v : Nat} {x o : Bytes} : Book (send rid n sActive v x o) :=
  .inl (send_type ..)
theorem book_error {rid n : Bytes} {v : Nat} {x o : Bytes} : Book (send rid n sError v x o) :=
  .inr (send_type ..)

theorem ruleError_outs (r : Rule) (e : Bytes) : ∀ o ∈ (ruleError r e).2, o.type = sError := by
  unfold ruleError
  extract_lets e'
  split
  · intro o ho
    rw [List.mem_singleton.mp ho, send_type]
  · nofun

theorem ruleError_spec (r : Rule) (e : Bytes) :
    SameBut r (ruleError r e).1 ∧ Books (ruleError r e).2 := by
  refine ⟨?_, fun o ho => .inr (ruleError_outs r e o ho)⟩
  unfold ruleError
  extract_lets e'
  split
  · exact ⟨rfl, rfl, rfl, rfl, rfl⟩
  · exact .refl r

theorem isInfix_iff {needle hay : Bytes} : isInfix needle hay = true ↔ needle <:+: hay := by
  induction hay with
  | nil => cases needle <;> simp [isInfix]
  | cons x xs ih =>
    cases needle with
    | nil => simp [isInfix]
    | cons a as => simp [isInfix, ih, List.infix_cons_iff]

theorem evalCond_flags (c : Cond) (a : Bool) (e : Bytes) (n : Bytes) (p : Pt) :
    evalCond { c with active := a, error := e } n p = evalCond c n p := rfl

def verdict (c : Cond) (n : Bytes) (p : Pt) : Option Bool :=
  match evalCond c n p with
  | .val a _ => some a
  | _ => none

theorem updCond_active (n : Bytes) (p : Pt) (c : Cond) :
    (updCond n p c).active = (verdict c n p).getD c.active := by
  unfold updCond verdict
  cases evalCond c n p with
  | val a e => cases e <;> rfl
  | _ => rfl

theorem evalCond_updCond (n : Bytes) (p : Pt) (c : Cond) (n' : Bytes) (p' : Pt) :
    evalCond (updCond n p c) n' p' = evalCond c n' p' := by
  unfold updCond
  split <;> rfl

theorem verdict_updCond (n : Bytes) (p : Pt) (c : Cond) (n' : Bytes) (p' : Pt) :
    verdict (updCond n p c) n' p' = verdict c n' p' := by
  unfold verdict; rw [evalCond_updCond]

theorem condStep_spec (r : Rule) (done : List Cond) (c : Cond) (rest : List Cond) (n : Bytes) (p : Pt) :
    SameBut { r with conds := done ++ updCond n p c :: rest } (condStep r done c rest n p).1 ∧
    Books (condStep r done c rest n p).2 := by
  unfold condStep
  extract_lets c' view
  split
  · exact ⟨.refl _, .nil⟩
  · exact ⟨(ruleError_spec ..).1, (Books.ite book_error).append (ruleError_spec ..).2⟩
  · exact ⟨(ruleError_spec ..).1,
      ((Books.ite book_error).append (ruleError_spec ..).2).append (.ite book_active)⟩
  · extract_lets o3
    split
    · exact ⟨(ruleError_spec ..).1,
        (Books.ite book_active).append (.cons book_error (ruleError_spec ..).2)⟩
    · exact ⟨.refl _, .ite book_active⟩

theorem condLoop_spec (n : Bytes) (p : Pt) : ∀ (todo : List Cond) (r : Rule) (done : List Cond),
    r.conds = done ++ todo →
    SameBut { r with conds := done ++ todo.map (updCond n p) } (condLoop n p r done todo).1 ∧
    Books (condLoop n p r done todo).2
  | [], r, done, h => ⟨⟨rfl, rfl, h, rfl, rfl⟩, .nil⟩
  | c :: rest, r, done, _ => by
    have hs := condStep_spec r done c rest n p
    have ih := condLoop_spec n p rest (condStep r done c rest n p).1 (done ++ [updCond n p c])
      (by rw [hs.1.conds, List.append_cons])
    rw [List.map_cons, List.append_cons]
    exact ⟨(hs.1.withConds _).trans ih.1, hs.2.append ih.2⟩

theorem procPoint_spec (r : Rule) (n : Bytes) (p : Pt) :
    SameBut { r with conds := r.conds.map (updCond n p) } (procPoint r n p).1 ∧
    Books (procPoint r n p).2 :=
  condLoop_spec n p r.conds r [] rfl

def condAfter (n : Bytes) (pts : List Pt) (c : Cond) : Cond := pts.foldl (fun c p => updCond n p c) c

theorem procPoints_spec (n : Bytes) : ∀ (pts : List Pt) (r : Rule),
    SameBut { r with conds := r.conds.map (condAfter n pts) } (procPoints r n pts).1 ∧
    Books (procPoints r n pts).2
  | [], r => ⟨⟨rfl, rfl, (List.map_id _).symm, rfl, rfl⟩, .nil⟩
  | p :: ps, r => by
    have h1 := procPoint_spec r n p
    have ih := procPoints_spec n ps (procPoint r n p).1
    rw [h1.1.conds, List.map_map] at ih
    exact ⟨(h1.1.withConds _).trans ih.1, h1.2.append ih.2⟩

theorem verdict_condAfter (n : Bytes) (pts : List Pt) (c : Cond) (n' : Bytes) (p' : Pt) :
    verdict (condAfter n pts c) n' p' = verdict c n' p' := by
  induction pts generalizing c with
  | nil => rfl
  | cons p ps ih => exact (ih _).trans (verdict_updCond ..)

def condAfterL (l : List (Bytes × Pt)) (c : Cond) : Cond := l.foldl (fun c x => updCond x.1 x.2 c) c

theorem condAfterL_append (l1 l2 : List (Bytes × Pt)) (c : Cond) :
    condAfterL (l1 ++ l2) c = condAfterL l2 (condAfterL l1 c) :=
  List.foldl_append

theorem condAfter_eq (n : Bytes) (pts : List Pt) (c : Cond) :
    condAfter n pts c = condAfterL (pts.map fun p => (n, p)) c := by
  unfold condAfter condAfterL; rw [List.foldl_map]

theorem foldl_getD_last {α β} (f : α → Option β) (l : List α) (a : β) :
    l.foldl (fun a x => (f x).getD a) a =
      match (l.filter fun x => (f x).isSome).getLast? with
      | some x => (f x).getD a
      | none => a := by
  rw [← l.reverse_reverse]
  induction l.reverse with
  | nil => rfl
  | cons x l ih =>
    rw [List.reverse_cons, List.foldl_append, List.filter_append, ih]
    cases h : f x <;> simp [h]

theorem condAfterL_active_fold (l : List (Bytes × Pt)) (c : Cond) :
    (condAfterL l c).active = l.foldl (fun a x => (verdict c x.1 x.2).getD a) c.active := by
  induction l generalizing c with
  | nil => rfl
  | cons x l ih =>
    exact (ih _).trans (by simp only [verdict_updCond, updCond_active, List.foldl_cons])

theorem condAfter_active (n : Bytes) (pts : List Pt) (c : Cond) :
    (condAfter n pts c).active =
      match (pts.filter (fun p => (verdict c n p).isSome)).getLast? with
      | some p => (verdict c n p).getD c.active
      | none => c.active := by
  rw [condAfter_eq, condAfterL_active_fold, List.foldl_map, foldl_getD_last]
  cases (pts.filter fun p => (verdict c n p).isSome).getLast? <;> rfl

def other : Which → Which
  | .act => .inact
  | .inact => .act

theorem other_other (w : Which) : other (other w) = w := by cases w <;> rfl

theorem getActs_setActs (r : Rule) (w : Which) (l : List Act) : getActs (setActs r w l) w = l := by
  cases w <;> rfl

theorem getActs_setActs_other (r : Rule) (w : Which) (l : List Act) : getActs (setActs r w l) (other w) = getActs r (other w) := by
  cases w <;> rfl

/-- `r'` is `r` except for its `error` text and its action list `w` -/
structure SameActs (w : Which) (r r' : Rule) : Prop where
  id : r'.id = r.id
  active : r'.active = r.active
  conds : r'.conds = r.conds
  others : getActs r' (other w) = getActs r (other w)

/-- `r'` is `r` with `l` as its action list `w`, except for its `error` text -/
structure WithActs (w : Which) (r : Rule) (l : List Act) (r' : Rule) : Prop extends SameActs w r r' where
  acts : getActs r' w = l

theorem SameBut.withActs {w : Which} {r r' : Rule} {l : List Act} (h : SameBut (setActs r w l) r') :
    WithActs w r l r' := by
  cases w
  · exact ⟨⟨h.id, h.active, h.conds, h.actsInactive⟩, h.acts⟩
  · exact ⟨⟨h.id, h.active, h.conds, h.acts⟩, h.actsInactive⟩

theorem SameActs.trans {w : Which} {a b c : Rule} (h1 : SameActs w a b) (h2 : SameActs w b c) : SameActs w a c :=
  ⟨h2.id.trans h1.id, h2.active.trans h1.active, h2.conds.trans h1.conds, h2.others.trans h1.others⟩

/-- the payload publications of one action (its set-value point; nothing for an invalid action) -/
def payload (rid : Bytes) (a : Act) : List Out := (actEval rid a).2

theorem actEval_spec (rid : Bytes) (a : Act) :
    if a.action = sSetValue ∧ a.nodeID ≠ [] ∧ a.pointType ≠ [] then
      actEval rid a = (none, [send rid a.nodeID a.pointType a.value a.valueText a.id])
    else ∃ e, actEval rid a = (some e, []) := by
  unfold actEval
  -- the tests are decided by `rw`: `split` is slow to check on branches that hold `strBytes` constants
  by_cases h1 : a.action = sSetValue
  · by_cases h2 : a.nodeID = []
    · rw [if_neg fun h => h.2.1 h2, if_pos h1, if_pos h2]; exact ⟨_, rfl⟩
    · by_cases h3 : a.pointType = []
      · rw [if_neg fun h => h.2.2 h3, if_pos h1, if_neg h2, if_pos h3]; exact ⟨_, rfl⟩
      · rw [if_pos ⟨h1, h2, h3⟩, if_pos h1, if_neg h2, if_neg h3]
  · rw [if_neg fun h => h1 h.1, if_neg h1]
    by_cases h4 : a.action = sPlayAudio
    · rw [if_pos h4]; exact ⟨_, rfl⟩
    · rw [if_neg h4]; exact ⟨_, rfl⟩

theorem updAct_active (rid : Bytes) (a : Act) : (updAct rid a).active = true := by
  unfold updAct; split <;> rfl

theorem actStep_spec (r : Rule) (w : Which) (done : List Act) (a : Act) (rest : List Act) :
    WithActs w r (done ++ updAct r.id a :: rest) (actStep r w done a rest).1 ∧
    ∃ bk, (actStep r w done a rest).2 = payload r.id a ++ bk ∧ Books bk := by
  have h := actEval_spec r.id a
  split at h
  · simp only [actStep, payload, h]
    split
    · exact ⟨(ruleError_spec ..).1.withActs, _, List.append_assoc ..,
        .cons book_active (.cons book_error (ruleError_spec ..).2)⟩
    · exact ⟨(SameBut.refl _).withActs, _, rfl, .cons book_active .nil⟩
  · obtain ⟨e, h⟩ := h
    simp only [actStep, payload, h]
    exact ⟨(ruleError_spec ..).1.withActs, _, rfl,
      ((Books.ite book_error).append (ruleError_spec ..).2).append (.cons book_active .nil)⟩

/-- the publications of a pass over the actions `as`, in order: each action's payload, then bookkeeping only -/
inductive Segs (rid : Bytes) : List Act → List Out → Prop where
  | nil : Segs rid [] []
  | cons (a : Act) (as : List Act) (bk rest : List Out) : Books bk → Segs rid as rest →
      Segs rid (a :: as) (payload rid a ++ bk ++ rest)

theorem Segs_count {rid : Bytes} {as : List Act} {outs : List Out} (h : Segs rid as outs) {o : Out} (ho : ¬ Book o) :
    outs.count o = (as.flatMap (payload rid)).count o := by
  induction h with
  | nil => rfl
  | cons a as bk rest hbk _ ih =>
    rw [List.count_append, List.count_append, hbk.count ho, ih, List.flatMap_cons, List.count_append, Nat.add_zero]

theorem actLoop_spec (w : Which) : ∀ (todo : List Act) (r : Rule) (done : List Act),
    getActs r w = done ++ todo →
    WithActs w r (done ++ todo.map (updAct r.id)) (actLoop w r done todo).1 ∧
    Segs r.id todo (actLoop w r done todo).2
  | [], r, done, h => ⟨⟨⟨rfl, rfl, rfl, rfl⟩, h⟩, .nil⟩
  | a :: rest, r, done, _ => by
    obtain ⟨hs, bk, hbk, hbook⟩ := actStep_spec r w done a rest
    obtain ⟨ih, hseg⟩ := actLoop_spec w rest (actStep r w done a rest).1
      (done ++ [updAct r.id a]) (by rw [hs.acts, List.append_cons])
    rw [hs.id] at ih hseg
    simp only [actLoop]
    rw [hbk]
    exact ⟨⟨hs.toSameActs.trans ih.toSameActs, ih.acts.trans (List.append_assoc ..)⟩,
      .cons a rest bk _ hbook hseg⟩

theorem runActions_spec (r : Rule) (w : Which) :
    WithActs w r ((getActs r w).map (updAct r.id)) (runActions r w).1 ∧
    Segs r.id (getActs r w) (runActions r w).2 :=
  actLoop_spec w (getActs r w) r [] rfl

theorem inactiveActions_spec (r : Rule) (w : Which) :
    WithActs w r ((getActs r w).map fun a => { a with active := false }) (inactiveActions r w).1 ∧
    (inactiveActions r w).1.error = r.error ∧
    (inactiveActions r w).2 = (getActs r w).map fun a => send r.id a.id sActive (b2f false) [] [] := by
  refine ⟨(SameBut.refl (setActs r w _)).withActs, ?_, rfl⟩
  cases w <;> rfl

/-- the list `fire` runs on a change to `active`; the `other` one is marked inactive -/
def firedList (active : Bool) : Which := if active then .act else .inact

theorem fire_eq (r : Rule) (active : Bool) :
    let w := firedList active
    let ra := runActions r w
    let ia := inactiveActions ra.1 (other w)
    fire r active = (ia.1, ra.2 ++ ia.2) := by
  cases active <;> rfl

/-- `f` is what `fire` returns for `r` when `w` is the list that runs: the publications of that pass, then one
    `active = 0` point for each action of the other list -/
structure Fired (r : Rule) (w : Which) (f : Rule × List Out) : Prop where
  id : f.1.id = r.id
  active : f.1.active = r.active
  conds : f.1.conds = r.conds
  ran : getActs f.1 w = (getActs r w).map (updAct r.id)
  marked : getActs f.1 (other w) = (getActs r (other w)).map fun a => { a with active := false }
  outs : ∃ o1, Segs r.id (getActs r w) o1 ∧
    f.2 = o1 ++ (getActs r (other w)).map fun a => send r.id a.id sActive (b2f false) [] []

theorem Fired.count {r : Rule} {w : Which} {f : Rule × List Out} (h : Fired r w f) {o : Out} (ho : ¬ Book o) :
    f.2.count o = ((getActs r w).flatMap (payload r.id)).count o := by
  obtain ⟨o1, hseg, heq⟩ := h.outs
  have hb : Books ((getActs r (other w)).map fun a => send r.id a.id sActive (b2f false) [] []) := fun _ hm => by
    obtain ⟨_, _, rfl⟩ := List.mem_map.mp hm
    exact book_active
  rw [heq, List.count_append, Segs_count hseg ho, hb.count ho, Nat.add_zero]

theorem Fired.told {r : Rule} {w : Which} {f : Rule × List Out} (h : Fired r w f) {a : Act}
    (ha : a ∈ getActs r (other w)) : send r.id a.id sActive (b2f false) [] [] ∈ f.2 := by
  obtain ⟨o1, _, heq⟩ := h.outs
  rw [heq]
  exact List.mem_append_right _ (List.mem_map.mpr ⟨a, ha, rfl⟩)

theorem fire_spec (r : Rule) (active : Bool) : Fired r (firedList active) (fire r active) := by
  rw [fire_eq]
  generalize firedList active = w
  obtain ⟨hrun, hseg⟩ := runActions_spec r w
  obtain ⟨hmark, -, hsent⟩ := inactiveActions_spec (runActions r w).1 (other w)
  have hkept : getActs (inactiveActions (runActions r w).1 (other w)).1 w = getActs (runActions r w).1 w := by
    have := hmark.others
    rwa [other_other] at this
  exact {
    id := hmark.id.trans hrun.id
    active := hmark.active.trans hrun.active
    conds := hmark.conds.trans hrun.conds
    ran := hkept.trans hrun.acts
    marked := by rw [hmark.acts, hrun.others]
    outs := ⟨_, hseg, by rw [hsent, hrun.others, hrun.id]⟩ }

/-- `x` is `r` after its conditions have seen the batch `pts` from `n`, consistently: active exactly when
    all of them are -/
structure Settled (r : Rule) (n : Bytes) (pts : List Pt) (x : Rule) : Prop where
  id : x.id = r.id
  conds : x.conds = r.conds.map (condAfter n pts)
  active : x.active = x.conds.all (·.active)

theorem Settled.fire {r x : Rule} {n : Bytes} {pts : List Pt} (h : Settled r n pts x) (s : Bool) :
    Settled r n pts (fire x s).1 := by
  have f := fire_spec x s
  exact ⟨f.id.trans h.id, f.conds.trans h.conds, by rw [f.active, f.conds]; exact h.active⟩

/-- `pr` is what `ruleProcessPoints` returns for `r` on the batch `pts` from `n` -/
structure Processed (r : Rule) (n : Bytes) (pts : List Pt) (pr : Proc) : Prop where
  settled : Settled r n pts pr.rule
  acts : ∀ w, getActs pr.rule w = getActs r w
  active : pr.active = pr.rule.active
  changed : pr.changed = true ↔ pr.rule.active ≠ r.active
  books : Books pr.outs

theorem ruleProcessPoints_spec (r : Rule) (n : Bytes) (pts : List Pt) :
    Processed r n pts (ruleProcessPoints r n pts) := by
  obtain ⟨hs, ho⟩ := procPoints_spec n pts r
  have hget (w) : getActs (procPoints r n pts).1 w = getActs r w := by
    cases w
    · exact hs.acts
    · exact hs.actsInactive
  unfold ruleProcessPoints
  simp only
  split
  next hne =>
    exact ⟨⟨hs.id, hs.conds, rfl⟩, hget, rfl, iff_of_true rfl (hs.active ▸ hne),
      ho.append (.cons book_active .nil)⟩
  next heq =>
    have heq := Decidable.not_not.mp heq
    exact ⟨⟨hs.id, hs.conds, heq.symm⟩, hget, heq, iff_of_false nofun (not_not_intro hs.active), ho⟩

theorem runBatch_nonempty (r : Rule) (n : Bytes) (pts : List Pt) (now : Int) (h : pts ≠ []) :
    let pr := ruleProcessPoints r n pts
    let f := fire pr.rule pr.active
    runBatch r n pts now = if pr.changed = true then (f.1, pr.outs ++ f.2) else (pr.rule, pr.outs) := by
  unfold runBatch
  simp only [h, ne_eq, not_false_eq_true, if_true]
  cases (ruleProcessPoints r n pts).changed <;> rfl

theorem runBatch_empty (r : Rule) (n : Bytes) (now : Int) :
    let pr := ruleProcessPoints r r.id [⟨sTrigger, [], 0, [], now⟩]
    let f := fire pr.rule pr.active
    runBatch r n [] now = (f.1, pr.outs ++ f.2) := by
  unfold runBatch
  rw [if_neg (not_not_intro rfl)]

theorem runBatch_settled (r : Rule) (n : Bytes) {pts : List Pt} (now : Int) (h : pts ≠ []) :
    Settled r n pts (runBatch r n pts now).1 := by
  rw [runBatch_nonempty r n pts now h]
  split
  · exact (ruleProcessPoints_spec ..).settled.fire _
  · exact (ruleProcessPoints_spec ..).settled

theorem runBatch_settled_nil (r : Rule) (n : Bytes) (now : Int) :
    Settled r r.id [⟨sTrigger, [], 0, [], now⟩] (runBatch r n [] now).1 := by
  rw [runBatch_empty]
  exact (ruleProcessPoints_spec ..).settled.fire _

theorem step_spec (r : Rule) (e : Event) :
    (step r e).1.id = r.id ∧ (step r e).1.active = (step r e).1.conds.all (·.active) := by
  have key (r' n pts now) (h : r'.id = r.id) : (runBatch r' n pts now).1.id = r.id ∧
      (runBatch r' n pts now).1.active = (runBatch r' n pts now).1.conds.all (·.active) := by
    by_cases hp : pts = []
    · subst hp
      exact ⟨(runBatch_settled_nil ..).id.trans h, (runBatch_settled_nil ..).active⟩
    · exact ⟨(runBatch_settled _ _ _ hp).id.trans h, (runBatch_settled _ _ _ hp).active⟩
  -- unfolded first: unifying through `step` is slow to check
  unfold step
  split
  · exact key _ _ _ _ rfl
  · exact key _ _ _ _ rfl
  · exact key _ _ _ _ rfl
  next w _ _ _ => exact key _ _ _ _ (by cases w <;> rfl)

end Siot.Rule
