import Siot.Model.SyncLoop
/-
C02, the select loop of `SyncClient.Run`: what holds whenever the loop waits (`Inv`: the ticker runs exactly while the link
is reported up, the period is at least a second, a reconnection is pending), and that `connected` is the last link report.
-/
namespace Siot.SyncLoop

structure Inv (s : St) : Prop where
  ticker : s.ticker = if s.connected then some s.period else none
  period : 1 ≤ s.period
  redial : s.disabled = true ∨ s.remote = true ∨ s.connectTimer.isSome = true

theorem checkPeriod_pos (p : Nat) : 1 ≤ checkPeriod p := by
  unfold checkPeriod
  split <;> omega

theorem inv_init (d : Bool) (p : Nat) : Inv (init d p) :=
  ⟨rfl, checkPeriod_pos p, Or.inr (Or.inr rfl)⟩

theorem inv_step (s : St) (e : Ev) (h : Inv s) : Inv (step s e).1 := by
  obtain ⟨ht, hp, hr⟩ := h
  cases e with
  | connectTimer ok =>
    unfold step
    by_cases hd : s.disabled = true
    · simp only [hd, if_true]; exact ⟨ht, hp, Or.inl rfl⟩
    · simp only [hd, Bool.false_eq_true, if_false]
      cases ok
      · exact ⟨ht, hp, Or.inr (Or.inr rfl)⟩
      · exact ⟨ht, hp, Or.inr (Or.inl rfl)⟩
  | tick => exact ⟨ht, hp, hr⟩
  | conn b ok =>
    cases b
    · exact ⟨rfl, hp, hr⟩
    · unfold step
      by_cases hi : s.initialSub = true
      · simp only [hi, if_true]; exact ⟨rfl, hp, hr⟩
      · simp only [hi, Bool.false_eq_true, if_false]; exact ⟨rfl, hp, hr⟩
  | localNode => exact ⟨ht, hp, hr⟩
  | localEdge => exact ⟨ht, hp, hr⟩
  | cfgRestart d => exact ⟨ht, hp, Or.inr (Or.inr rfl)⟩
  | cfgPeriod p =>
    refine ⟨?_, checkPeriod_pos p, hr⟩
    show (if s.connected then some (checkPeriod p) else s.ticker) = if s.connected then some (checkPeriod p) else none
    rw [ht]
    cases s.connected <;> rfl
  | other => exact ⟨ht, hp, hr⟩

theorem inv_run : ∀ (evs : List Ev) (s : St), Inv s → Inv (run s evs).1 := by
  intro evs
  induction evs with
  | nil => intro s h; exact h
  | cons e es ih => intro s h; exact ih _ (inv_step s e h)

theorem step_connected (s : St) (e : Ev) : (step s e).1.connected = match e with | .conn b _ => b | _ => s.connected := by
  cases e with
  | connectTimer ok =>
    show (if s.disabled = true then _ else if ok = true then _ else _ : St × List Act).1.connected = s.connected
    split
    · rfl
    · split <;> rfl
  | conn b ok =>
    cases b
    · rfl
    · show (if s.initialSub = true then _ else _ : St × List Act).1.connected = true
      split <;> rfl
  | _ => rfl

theorem connected_run : ∀ (evs : List Ev) (s : St), (run s evs).1.connected = lastConn evs s.connected := by
  intro evs
  induction evs with
  | nil => intro s; rfl
  | cons e es ih =>
    intro s
    show (run (step s e).1 es).1.connected = _
    rw [ih, step_connected]
    cases e <;> rfl

end Siot.SyncLoop
