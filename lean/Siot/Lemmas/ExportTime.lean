import Siot.Lemmas.ExportStore
/-
The YAML file carries no time stamps: every point of an imported file has time 0 and is stamped by the store with the
clock of the import. Sending such a node is sending the node with all its times set to that clock — the form the
store-level theorems speak about.
-/
namespace Siot.Export
open Siot Siot.Store

def zeroT (p : Point) : Point := { p with time := 0 }
def setT (t : Int) (p : Point) : Point := { p with time := t }

def zeroNode (n : NodeRec) : NodeRec := { n with pts := n.pts.map zeroT, epts := n.epts.map zeroT }
def stampNode (t : Int) (n : NodeRec) : NodeRec := { n with pts := n.pts.map (setT t), epts := n.epts.map (setT t) }

def zeroFlat (f : Flat) : Flat := f.map (fun x => (x.1, zeroNode x.2))
/-- the file as the import stamps it: node number i (in file order) at clock `t + i` -/
def stampFlat : Int → Flat → Flat
  | _, [] => []
  | t, (d, n) :: rest => (d, stampNode t n) :: stampFlat (t + 1) rest

theorem hasTomb_time (f : Point → Point) (hf : ∀ p, (f p).type = p.type ∧ (f p).key = p.key) (l : List Point) :
    hasTomb (l.map f) = hasTomb l := by
  rw [hasTomb, List.any_map]
  exact List.any_congr rfl fun p => by rw [Function.comp, (hf p).1, (hf p).2]

theorem sendNode_timeless (st : St) (n : NodeRec) (now : Int) (h0 : now ≠ 0) :
    sendNode st (zeroNode n) now = sendNode st (stampNode now n) now := by
  have key : ∀ g : Point → Point, (∀ p, stamp now (g p) = setT now p) → ∀ l : List Point,
      (l.map g).map (stamp now) = l.map (setT now) :=
    fun g hg l => List.map_map.trans (List.map_congr_left fun p _ => hg p)
  simp only [sendNode_eq, zeroNode, stampNode, key zeroT fun _ => if_pos rfl, key (setT now) fun _ => if_neg h0,
    hasTomb_time zeroT fun _ => ⟨rfl, rfl⟩, hasTomb_time (setT now) fun _ => ⟨rfl, rfl⟩]

end Siot.Export
