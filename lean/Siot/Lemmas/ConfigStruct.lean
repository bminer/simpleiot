import Siot.Lemmas.Basic
import Siot.Lemmas.ConfigMerge
/-
Flat structs (and pointers to them). `encStruct` emits a point for every field, `diffStruct` for the changed ones: both are
`selPts` for a choice `c` of fields (`selAll`, `selChanged`). The struct loop of `SetValue` looks every field up among the
points, so it sets exactly the chosen ones.
-/
namespace Siot.Config
open Siot

variable {N : Num} {pt : Bytes} {k : SKind}

abbrev FieldsOk (fs : Fields) (vs : List SVal) : Prop := ∀ fv ∈ fs.zip vs, SOk fv.1.2 fv.2

/-- a live point for each field that `c` (of kind, old and new value) selects -/
def selPts (N : Num) (pt : Bytes) (c : SKind → SVal → SVal → Bool) : Fields → List SVal → List SVal → List Point
  | (key, k) :: fs, b :: bs, a :: as =>
    if c k b a then pointOf N pt k key a :: selPts N pt c fs bs as else selPts N pt c fs bs as
  | _, _, _ => []

def selVals (c : SKind → SVal → SVal → Bool) : Fields → List SVal → List SVal → List SVal
  | (_, k) :: fs, b :: bs, a :: as => (if c k b a then a else b) :: selVals c fs bs as
  | _, _, _ => []

/-- the two choices: every field (`Encode`), the fields Go does not call equal (`DiffPoints`) -/
def selAll : SKind → SVal → SVal → Bool := fun _ _ _ => true
def selChanged (N : Num) : SKind → SVal → SVal → Bool := fun k b a => !sEq N k b a

/-- a struct type with an old and a new value of it: three lists of one length. The lemmas below go by induction on this. -/
inductive Rows : Fields → List SVal → List SVal → Prop
  | nil : Rows [] [] []
  | cons {f fs b bs a as} : Rows fs bs as → Rows (f :: fs) (b :: bs) (a :: as)

theorem Rows.of_length : ∀ {fs : Fields} {bs as : List SVal}, fs.length = bs.length → fs.length = as.length → Rows fs bs as
  | [], [], [], _, _ => .nil
  | _ :: _, _ :: _, _ :: _, hb, ha => .cons (Rows.of_length (Nat.succ.inj hb) (Nat.succ.inj ha))

theorem mem_selPts {N : Num} {pt : Bytes} {c : SKind → SVal → SVal → Bool} {fs : Fields} {bs as : List SVal}
    {p : Point} (h : p ∈ selPts N pt c fs bs as) : ∃ f ∈ fs, ∃ a, p = pointOf N pt f.2 f.1 a := by
  fun_induction selPts N pt c fs bs as
  case case1 key k fs b bs a as hc ih =>
    rcases List.mem_cons.mp h with rfl | h
    · exact ⟨_, List.mem_cons_self, a, rfl⟩
    · obtain ⟨f, hf, h⟩ := ih h
      exact ⟨f, List.mem_cons_of_mem _ hf, h⟩
  case case2 ih =>
    obtain ⟨f, hf, h⟩ := ih h
    exact ⟨f, List.mem_cons_of_mem _ hf, h⟩
  case case3 => cases h

theorem selVals_all (fs : Fields) (bs as : List SVal) (hb : fs.length = bs.length) (ha : fs.length = as.length) :
    selVals selAll fs bs as = as := by
  have hr := Rows.of_length hb ha
  clear hb ha
  induction hr with
  | nil => rfl
  | cons _ ih => exact congrArg (_ :: ·) ih

/-- `bs` plays no part (every field is selected); it is there because `selPts` runs down three lists -/
theorem encStruct_ok (fs : Fields) (bs vs : List SVal)
    (hb : fs.length = bs.length) (hv : fs.length = vs.length) (hok : FieldsOk fs vs) :
    encStruct N pt fs vs = .ok (selPts N pt selAll fs bs vs) := by
  have hr := Rows.of_length hb hv
  clear hb hv
  induction hr with
  | nil => rfl
  | @cons f _ _ _ v _ _ ih =>
    obtain ⟨hok1, hok⟩ := List.forall_mem_cons.mp hok
    simp only [encStruct, keyed_ok f.1 v hok1, ih hok]
    rfl

theorem encodeField_struct (fs : Fields) (vs : List SVal) (hv : fs.length = vs.length)
    (hsz : fs.length ≤ maxStructureSize) (hok : FieldsOk fs vs) :
    encodeField N pt (.struct fs) (.struct vs) = .ok (selPts N pt selAll fs (zeroVals fs) vs) := by
  unfold encodeField
  exact (if_neg (Nat.not_lt.mpr hsz)).trans (encStruct_ok fs _ vs (length_zeroVals fs) hv hok)

theorem diffStruct_ok (fs : Fields) (bs as : List SVal)
    (hb : fs.length = bs.length) (ha : fs.length = as.length) (hk : ∀ f ∈ fs, f.1 ≠ []) (hok : FieldsOk fs as) :
    diffStruct N pt fs bs as = .ok (selPts N pt (selChanged N) fs bs as) := by
  have hr := Rows.of_length hb ha
  clear hb ha
  induction hr with
  | nil => rfl
  | @cons f _ b _ a _ _ ih =>
    obtain ⟨hk1, hk⟩ := List.forall_mem_cons.mp hk
    obtain ⟨hok1, hok⟩ := List.forall_mem_cons.mp hok
    rw [diffStruct, ih hk hok, selPts]
    dsimp only
    cases h : sEq N f.2 b a
    · -- changed: a point, which `addNorm` leaves alone because its key is not empty
      simp only [selChanged, h, Bool.not_false, if_true, Bool.false_eq_true, if_false, keyed_ok f.1 a hok1,
        addNorm_eq_self (pointOf N pt f.2 f.1 a) hk1]
    · simp only [selChanged, h, Bool.not_true, Bool.false_eq_true, if_false, if_true]

theorem diffField_struct (fs : Fields) (bs as : List SVal)
    (hb : fs.length = bs.length) (ha : fs.length = as.length) (hsz : fs.length ≤ maxStructureSize) (hk : ∀ f ∈ fs, f.1 ≠ [])
    (hok : FieldsOk fs as) :
    diffField N pt (.struct fs) (.struct bs) (.struct as) = .ok (selPts N pt (selChanged N) fs bs as) := by
  unfold diffField
  exact (if_neg (Nat.not_lt.mpr hsz)).trans (diffStruct_ok fs bs as hb ha hk hok)

theorem setStruct_cons_of_not_mem (p : Point) (ps : List Point) (fs : Fields) (vs : List SVal)
    (h : p.key ∉ fs.map (·.1)) : setStruct N (p :: ps) fs vs = setStruct N ps fs vs := by
  induction fs generalizing vs with
  | nil => rfl
  | cons f fs ih =>
    cases vs with
    | nil => rfl
    | cons v vs =>
      rw [List.map_cons, List.mem_cons, not_or] at h
      have : (p.key == f.1) = false := beq_eq_false_iff_ne.mpr h.1
      simp only [setStruct, List.reverse_cons, List.find?_append, List.find?_cons, this, List.find?_nil, Option.or_none, ih vs h.2]

theorem setStruct_selPts (hN : NumLaws N) (c : SKind → SVal → SVal → Bool) (fs : Fields)
    (bs as : List SVal) (hnd : (fs.map (·.1)).Nodup) (hb : fs.length = bs.length) (ha : fs.length = as.length)
    (hok : FieldsOk fs as) :
    setStruct N (selPts N pt c fs bs as) fs bs = (selVals c fs bs as, .ok) := by
  have hr := Rows.of_length hb ha
  clear hb ha
  induction hr with
  | nil => rfl
  | @cons f fs b bs a as _ ih =>
    rw [List.map_cons, List.nodup_cons] at hnd
    obtain ⟨hok1, hok⟩ := List.forall_mem_cons.mp hok
    have ih := ih hnd.2 hok
    have hnone : (selPts N pt c fs bs as).reverse.find? (fun p => p.key == f.1) = none := by
      rw [List.find?_eq_none]
      intro p hp hk
      obtain ⟨g, hg, _, rfl⟩ := mem_selPts (List.mem_reverse.mp hp)
      exact hnd.1 (beq_iff_eq.mp hk ▸ List.mem_map_of_mem (f := (·.1)) hg)
    rw [selPts, selVals]
    split
    · rw [setStruct, List.reverse_cons, List.find?_append, hnone]
      simp only [Option.none_or, List.find?_cons, pointOf_key, beq_self_eq_true, setScalar_pointOf hN f.1 a hok1,
        setStruct_cons_of_not_mem (pointOf N pt f.2 f.1 a) _ fs bs hnd.1, ih]
    · simp only [setStruct, hnone, ih]

theorem selPts_type (c : SKind → SVal → SVal → Bool) (fs : Fields) (bs as : List SVal) :
    ∀ p ∈ selPts N pt c fs bs as, p.type = pt := by
  intro p hp
  obtain ⟨_, _, _, rfl⟩ := mem_selPts hp
  rfl

theorem mergeField_struct (hN : NumLaws N) (c : SKind → SVal → SVal → Bool) (fs : Fields)
    (bs as : List SVal) (hnd : (fs.map (·.1)).Nodup) (hb : fs.length = bs.length) (ha : fs.length = as.length)
    (hok : FieldsOk fs as) :
    mergeField N (.struct fs) (.struct bs) (selPts N pt c fs bs as) = (.struct (selVals c fs bs as), .ok) := by
  refine mergeField_of_setValue hb nofun ?_
  simp only [setValue, group_points, setStruct_selPts hN c fs bs as hnd hb ha hok]

/-! Pointers to flat structs: `SetValue` folds the group's points over the declared keys (`validStep`): the pointer ends nil
exactly when no key is left. -/
theorem foldl_validStep_live (ps : List Point) (acc : List Bytes) (h : ∀ p ∈ ps, p.tomb = 0 ∧ p.key ∈ acc) :
    ps.foldl validStep acc = acc := by
  induction ps with
  | nil => rfl
  | cons p ps ih =>
    obtain ⟨⟨ht, hk⟩, h⟩ := List.forall_mem_cons.mp h
    rw [List.foldl_cons, validStep, ht, tombOdd_zero, if_neg Bool.false_ne_true, if_pos (List.contains_iff_mem.mpr hk)]
    exact ih h

theorem foldl_validStep_dead (keys acc : List Bytes) (h : ∀ a ∈ acc, a ∈ keys) : (tombPts pt keys).foldl validStep acc = [] := by
  induction keys generalizing acc with
  | nil => exact List.eq_nil_iff_forall_not_mem.mpr fun a ha => nomatch h a ha
  | cons key keys ih =>
    rw [tombPts, List.map_cons, List.foldl_cons, validStep, tombOdd_one, if_pos rfl]
    refine ih _ fun a ha => ?_
    obtain ⟨ha, hne⟩ := List.mem_filter.mp ha
    exact (List.mem_cons.mp (h a ha)).resolve_left (bne_iff_ne.mp hne)

/-- a tombstone for every field: the pointer becomes nil -/
theorem mergeField_ptrStruct_dead (fs : Fields) (v : Option (List SVal)) (h : fs = [] → v = none) :
    mergeField N (.ptrStruct fs) (.ptrStruct v) (tombPts pt (fs.map (·.1))) = (.ptrStruct none, .ok) := by
  cases fs with
  | nil =>
    rw [h rfl]
    rfl
  | cons f fs =>
    rw [mergeField, if_neg (by exact Bool.false_ne_true), setValue_ptrStruct, group_points,
      foldl_validStep_dead _ _ fun _ h => h]
    rfl

/-- `Encode` of a nil pointer and `DiffPoints` from a struct to nil: a tombstone for every field -/
theorem encodeField_ptrStruct_nil (fs : Fields) (hsz : fs.length ≤ maxStructureSize) :
    encodeField N pt (.ptrStruct fs) (.ptrStruct none) = .ok (tombPts pt (fs.map (·.1))) := by
  unfold encodeField
  rw [tombPts, List.map_map]
  exact if_neg (Nat.not_lt.mpr hsz)

theorem diffField_ptrStruct_nil (fs : Fields) (bs : List SVal) (hsz : fs.length ≤ maxStructureSize) (hk : ∀ f ∈ fs, f.1 ≠ []) :
    diffField N pt (.ptrStruct fs) (.ptrStruct (some bs)) (.ptrStruct none) = .ok (tombPts pt (fs.map (·.1))) := by
  unfold diffField
  dsimp only
  rw [if_neg (Nat.not_lt.mpr hsz), tombPts, List.map_map, List.map_congr_left fun f hf => addNorm_eq_self _ (hk f hf)]
  rfl

theorem setValue_ptrStruct_selPts (hN : NumLaws N) (c : SKind → SVal → SVal → Bool) (fs : Fields)
    (v : Option (List SVal)) (as : List SVal) (hfs : fs ≠ []) (hnd : (fs.map (·.1)).Nodup)
    (hb : fs.length = (v.getD (zeroVals fs)).length) (ha : fs.length = as.length) (hok : FieldsOk fs as) :
    setValue N ((selPts N pt c fs (v.getD (zeroVals fs)) as).foldl groupStep {}) (.ptrStruct fs) (.ptrStruct v) =
      (.ptrStruct (some (selVals c fs (v.getD (zeroVals fs)) as)), .ok) := by
  have hlive : ∀ p ∈ selPts N pt c fs (v.getD (zeroVals fs)) as, p.tomb = 0 ∧ p.key ∈ fs.map (·.1) := by
    intro p hp
    obtain ⟨f, hf, _, rfl⟩ := mem_selPts hp
    exact ⟨rfl, List.mem_map_of_mem (f := (·.1)) hf⟩
  rw [setValue_ptrStruct, group_points, foldl_validStep_live _ _ hlive, if_neg,
    setStruct_selPts hN c fs _ as hnd hb ha hok]
  cases fs with
  | nil => exact absurd rfl hfs
  | cons => exact Bool.false_ne_true

theorem mergeField_ptrStruct_some (hN : NumLaws N) (c : SKind → SVal → SVal → Bool) (fs : Fields) (bs as : List SVal)
    (hfs : fs ≠ []) (hnd : (fs.map (·.1)).Nodup) (hb : fs.length = bs.length) (ha : fs.length = as.length) (hok : FieldsOk fs as) :
    mergeField N (.ptrStruct fs) (.ptrStruct (some bs)) (selPts N pt c fs bs as) = (.ptrStruct (some (selVals c fs bs as)), .ok) :=
  mergeField_of_setValue hb (fun _ h => by cases h; exact ⟨hfs, nofun⟩)
    (setValue_ptrStruct_selPts hN c fs (some bs) as hfs hnd hb ha hok)

theorem mergeField_ptrStruct_none (hN : NumLaws N) (fs : Fields) (vs : List SVal) (hfs : fs ≠ [])
    (hnd : (fs.map (·.1)).Nodup) (hv : fs.length = vs.length) (hok : FieldsOk fs vs) :
    mergeField N (.ptrStruct fs) (.ptrStruct none) (selPts N pt selAll fs (zeroVals fs) vs) = (.ptrStruct (some vs), .ok) := by
  have hs := setValue_ptrStruct_selPts (pt := pt) hN selAll fs none vs hfs hnd (length_zeroVals fs) hv hok
  rw [Option.getD_none, selVals_all fs _ vs (length_zeroVals fs) hv] at hs
  -- there is a field, hence a point, and on a point `mergeField` is `SetValue`
  obtain ⟨f, fs, rfl⟩ := List.exists_cons_of_ne_nil hfs
  cases vs with
  | nil => cases hv
  | cons => exact hs

end Siot.Config
