import Siot.Lemmas.Basic
import Siot.Model.Export
/- C15, the id map of ReplaceIDs: it only grows, never sends two old ids to one new id, and what a node becomes is its
   renaming by the final map. -/
namespace Siot.Export
open Siot Siot.Store

def Ext (s t : RS) : Prop := ∀ k v, lookupId s.map k = some v → lookupId t.map k = some v

theorem Ext.refl (s : RS) : Ext s s := fun _ _ h => h
theorem Ext.trans {a b c : RS} (h1 : Ext a b) (h2 : Ext b c) : Ext a c := fun k v h => h2 k v (h1 k v h)

structure MapInv (fresh : Nat → Bytes) (s : RS) : Prop where
  inj : ∀ a b x, lookupId s.map a = some x → lookupId s.map b = some x → a = b
  -- what makes `inj` inductive: the id drawn next, `fresh s.next`, is not yet a value
  drawn : ∀ a x, lookupId s.map a = some x → ∃ k, k < s.next ∧ x = fresh k

/-- a stretch of ReplaceIDs took the map state from `s` to `s'` -/
structure Grew (fresh : Nat → Bytes) (s s' : RS) : Prop where
  inv : MapInv fresh s'
  ext : Ext s s'
  next : s'.next ≥ s.next

theorem Grew.refl {fresh : Nat → Bytes} {s : RS} (h : MapInv fresh s) : Grew fresh s s := ⟨h, Ext.refl s, Nat.le_refl _⟩

theorem Grew.trans {fresh : Nat → Bytes} {a b c : RS} (h1 : Grew fresh a b) (h2 : Grew fresh b c) : Grew fresh a c :=
  ⟨h2.inv, h1.ext.trans h2.ext, Nat.le_trans h1.next h2.next⟩

theorem lookupId_append_some {m : List (Bytes × Bytes)} (x : List (Bytes × Bytes)) {k v : Bytes} (h : lookupId m k = some v) :
    lookupId (m ++ x) k = some v := by
  unfold lookupId at *
  split at h
  · next y hy =>
    rw [List.find?_append, hy]
    exact h
  · cases h

theorem lookupId_mem {m : List (Bytes × Bytes)} {k v : Bytes} (h : lookupId m k = some v) : (k, v) ∈ m := by
  unfold lookupId at h
  split at h
  · next y hy =>
    cases h
    have hk : y.1 = k := beq_iff_eq.mp (List.find?_some hy :)
    exact hk ▸ List.mem_of_find?_eq_some hy
  · cases h

theorem lookupId_append (m : List (Bytes × Bytes)) (k v a x : Bytes) :
    lookupId (m ++ [(k, v)]) a = some x ↔ lookupId m a = some x ∨ (lookupId m a = none ∧ a = k ∧ x = v) := by
  unfold lookupId
  rw [List.find?_append]
  cases m.find? (fun y => y.1 == a) with
  | some y => exact ⟨.inl, fun h => h.resolve_right fun h => nomatch h.1⟩
  | none =>
    rw [List.find?_singleton]
    by_cases h : k = a
    · rw [if_pos (beq_iff_eq.mpr h)]
      exact ⟨fun e => .inr ⟨rfl, h.symm, (Option.some.inj e).symm⟩, fun e => congrArg some (e.resolve_left nofun).2.2.symm⟩
    · rw [if_neg (by rwa [beq_iff_eq])]
      exact ⟨nofun, fun e => absurd (e.resolve_left nofun).2.1.symm h⟩

theorem mapId_spec (fresh : Nat → Bytes) (hinj : Function.Injective fresh) (s : RS) (old : Bytes) (h : MapInv fresh s) :
    Grew fresh s (mapId fresh s old).2 ∧ lookupId (mapId fresh s old).2.map old = some (mapId fresh s old).1 := by
  unfold mapId
  cases hl : lookupId s.map old with
  | some n => exact ⟨.refl h, hl⟩
  | none =>
    have new : ∀ a x, lookupId s.map a = some x → x ≠ fresh s.next := fun a x ha e => by
      obtain ⟨k, hk, e'⟩ := h.drawn a x ha
      exact Nat.ne_of_lt hk (hinj (e'.symm.trans e))
    refine ⟨⟨⟨fun a b x ha hb => ?_, fun a x ha => ?_⟩, fun _ _ => lookupId_append_some _, Nat.le_succ _⟩,
      (lookupId_append ..).mpr (.inr ⟨hl, rfl, rfl⟩)⟩
    · rcases (lookupId_append ..).mp ha with ha' | ⟨_, ea, hx⟩ <;> rcases (lookupId_append ..).mp hb with hb' | ⟨_, eb, hx'⟩
      · exact h.inj a b x ha' hb'
      · exact absurd hx' (new a x ha')
      · exact absurd hx (new b x hb')
      · exact ea.trans eb.symm
    · rcases (lookupId_append ..).mp ha with ha | ⟨_, _, hx⟩
      · exact (h.drawn a x ha).imp fun k hk => ⟨Nat.lt_succ_of_lt hk.1, hk.2⟩
      · exact ⟨s.next, Nat.lt_succ_self _, hx⟩

def renPts (σ : Bytes → Option Bytes) (ps : List Point) : List Point :=
  ps.map (fun p => if p.type = nodeIDT ∧ p.text ≠ [] then { p with text := (σ p.text).getD p.text } else p)

-- "for every `t` extending the result": the final map is known only at the end of the walk
theorem replPts_spec (fresh : Nat → Bytes) (hinj : Function.Injective fresh) : ∀ (ps : List Point) (s : RS), MapInv fresh s →
    Grew fresh s (replPts fresh s ps).2 ∧
    ∀ t, Ext (replPts fresh s ps).2 t → (replPts fresh s ps).1 = renPts (lookupId t.map) ps := by
  intro ps
  induction ps with
  | nil => intro s h; exact ⟨.refl h, fun _ _ => rfl⟩
  | cons p ps ih =>
    intro s h
    rw [replPts]
    split
    · rename_i hc
      obtain ⟨hgrew, hlook⟩ := mapId_spec fresh hinj s p.text h
      obtain ⟨hgrew', hren⟩ := ih (mapId fresh s p.text).2 hgrew.inv
      refine ⟨hgrew.trans hgrew', fun t ht => ?_⟩
      rw [renPts, List.map_cons, if_pos hc, ht _ _ (hgrew'.ext _ _ hlook)]
      exact congrArg (_ :: ·) (hren t ht)
    · rename_i hc
      obtain ⟨hgrew, hren⟩ := ih s h
      refine ⟨hgrew, fun t ht => ?_⟩
      rw [renPts, List.map_cons, if_neg hc]
      exact congrArg (p :: ·) (hren t ht)

/-- a node after ReplaceIDs, relative to a map σ: same type and edge points, id renamed (a blank id gets
    some id), node-id points renamed -/
def Renamed (σ : Bytes → Option Bytes) (a b : Nat × NodeRec) : Prop :=
  b.1 = a.1 ∧ b.2.typ = a.2.typ ∧ b.2.epts = a.2.epts ∧ (a.2.id ≠ [] → σ a.2.id = some b.2.id) ∧
  b.2.pts = renPts σ a.2.pts

theorem replNode_spec (fresh : Nat → Bytes) (hinj : Function.Injective fresh) (s : RS) (par : Bytes) (n : NodeRec) (h : MapInv fresh s) :
    Grew fresh s (replNode fresh s par n).2 ∧
    (replNode fresh s par n).1.parent = par ∧
    (∃ k, (replNode fresh s par n).1.id = fresh k) ∧
    ∀ t, Ext (replNode fresh s par n).2 t → ∀ d, Renamed (lookupId t.map) (d, n) (d, (replNode fresh s par n).1) := by
  unfold replNode
  split
  · rename_i hb
    -- a blank id: an id is drawn, the map stays
    have hdraw : Grew fresh s { s with next := s.next + 1 } :=
      ⟨⟨h.inj, fun a x ha => (h.drawn a x ha).imp fun k hk => ⟨Nat.lt_succ_of_lt hk.1, hk.2⟩⟩, fun _ _ hk => hk, Nat.le_succ _⟩
    obtain ⟨hgrew, hren⟩ := replPts_spec fresh hinj n.pts _ hdraw.inv
    exact ⟨hdraw.trans hgrew, rfl, ⟨s.next, rfl⟩, fun t ht d => ⟨rfl, rfl, rfl, fun hne => absurd hb hne, hren t ht⟩⟩
  · obtain ⟨hgrew, hlook⟩ := mapId_spec fresh hinj s n.id h
    obtain ⟨hgrew', hren⟩ := replPts_spec fresh hinj n.pts _ hgrew.inv
    exact ⟨hgrew.trans hgrew', rfl, (hgrew.inv.drawn _ _ hlook).imp fun k hk => hk.2,
      fun t ht d => ⟨rfl, rfl, rfl, fun _ => ht _ _ (hgrew'.ext _ _ hlook), hren t ht⟩⟩

inductive Forall2 {α β} (R : α → β → Prop) : List α → List β → Prop
  | nil : Forall2 R [] []
  | cons (a : α) (b : β) (as : List α) (bs : List β) : R a b → Forall2 R as bs → Forall2 R (a :: as) (b :: bs)

theorem replaceAux_spec (fresh : Nat → Bytes) (hinj : Function.Injective fresh) (target : Bytes) :
    ∀ (f : Flat) (s : RS) (anc : List Bytes), MapInv fresh s →
    Grew fresh s (replaceIDsAux fresh target s anc f).2 ∧
    ∀ t, Ext (replaceIDsAux fresh target s anc f).2 t → Forall2 (Renamed (lookupId t.map)) f (replaceIDsAux fresh target s anc f).1 := by
  intro f
  induction f with
  | nil => intro s anc h; exact ⟨.refl h, fun _ _ => .nil⟩
  | cons x rest ih =>
    intro s anc h
    obtain ⟨d, n⟩ := x
    obtain ⟨hgrew, _, _, hren⟩ := replNode_spec fresh hinj s (parentAt target anc d) n h
    obtain ⟨hgrew', hrest⟩ := ih _ (anc.take d ++ [(replNode fresh s (parentAt target anc d) n).1.id]) hgrew.inv
    exact ⟨hgrew.trans hgrew', fun t ht => .cons _ _ _ _ (hren t (hgrew'.ext.trans ht) d) (hrest t ht)⟩

theorem replaceAux_checks (fresh : Nat → Bytes) (hinj : Function.Injective fresh) (hne : ∀ k, fresh k ≠ []) (target : Bytes) (ht : target ≠ []) :
    ∀ (f : Flat) (s : RS) (anc : List Bytes), MapInv fresh s → checkIDs target anc (replaceIDsAux fresh target s anc f).1 = true := by
  intro f
  induction f with
  | nil => intro s anc _; rfl
  | cons x rest ih =>
    intro s anc h
    obtain ⟨d, n⟩ := x
    obtain ⟨hgrew, hpar, ⟨k, hid⟩, _⟩ := replNode_spec fresh hinj s (parentAt target anc d) n h
    rw [replaceIDsAux, checkIDs, Bool.and_eq_true, Bool.and_eq_true, Bool.and_eq_true, bne_iff_ne, beq_iff_eq, bne_iff_ne]
    refine ⟨⟨⟨ht, hpar⟩, ?_⟩, ih _ _ hgrew.inv⟩
    rw [hid]
    exact hne k

end Siot.Export
