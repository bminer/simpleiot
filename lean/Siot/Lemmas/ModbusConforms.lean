import Siot.Lemmas.Modbus
/-
The server against the specification. `Reply` lists the three shapes that a pair of answers (server, specification)
takes; the theorems of C18 are read off it.
-/
namespace Siot.Modbus
open Siot Siot.Modbus.Spec

def toResp : Outcome → Option Resp
  | .normal fc d => some (.normal fc d)
  | .exception fc c => some (.exception fc c)
  | .tooShort => some .none
  | .panic _ => none

def Agree (r : Outcome × Regs) (sp : Result) : Prop :=
  toResp r.1 = some sp.resp ∧ ∀ regs, sp.regs = some regs → r.2 = regs

/-- The three ways in which the server (left) and the specification (right) answer a request to the
register file `rs` that is at least as long as its fixed header. An exception leaves the register
file as it was and the specification says so, except where a multiple write (15, 16) has been
abandoned half way: there the specification leaves the register file open. -/
inductive Reply (rs : Regs) (fc : Nat) : Outcome × Regs → Result → Prop
  | normal (f : Nat) (d : Bytes) (rs' : Regs) : Reply rs fc (.normal f d, rs') ⟨.normal f d, some rs'⟩
  | exception (f c : Nat) : Reply rs fc (.exception f c, rs) ⟨.exception f c, some rs⟩
  | abandoned (h : fc = 15 ∨ fc = 16) (f c : Nat) (rs' : Regs) :
      Reply rs fc (.exception f c, rs') ⟨.exception f c, none⟩

variable {rs : Regs} {fc : Nat} {data : Bytes}

theorem Reply.agree {r : Outcome × Regs} {sp : Result} (h : Reply rs fc r sp) : Agree r sp := by
  cases h <;> exact ⟨rfl, fun _ h => by cases h <;> rfl⟩

theorem Reply.ne_tooShort {r : Outcome × Regs} {sp : Result} (h : Reply rs fc r sp) : r.1 ≠ .tooShort := by
  cases h <;> exact nofun

theorem Reply.keeps {r : Outcome × Regs} {sp : Result} (h : Reply rs fc r sp) (hfc : fc ≠ 15 ∧ fc ≠ 16)
    {f c : Nat} (he : r.1 = .exception f c) : r.2 = rs := by
  cases h with
  | normal => cases he
  | exception => rfl
  | abandoned h' => exact absurd h' (not_or.mpr hfc)

theorem Reply.ite {c : Prop} [Decidable c] {x y : Outcome × Regs} {x' y' : Result}
    (hx : c → Reply rs fc x x') (hy : ¬ c → Reply rs fc y y') :
    Reply rs fc (if c then x else y) (if c then x' else y') := by
  split
  · exact hx ‹_›
  · exact hy ‹_›

theorem cases4 (data : Bytes) (h : 4 ≤ data.length) : ∃ a b c d rest, data = a :: b :: c :: d :: rest := by
  match data, h with
  | a :: b :: c :: d :: rest, _ => exact ⟨a, b, c, d, rest, rfl⟩

/-! One lemma per handler. Each first puts the specification's branch for its function code into the
handler's terms (`word` of the matched header bytes for `getD`), after which the two sides make the
same tests in the same order. -/

theorem reply_readBits (hfc : fc = 1 ∨ fc = 2) (h : fixedLen fc ≤ data.length) :
    Reply rs fc (reqReadBits rs fc data) (respond rs fc data) := by
  -- one script for both function codes: `respond`'s `match fc` reduces only once `fc` is a literal
  rcases hfc with rfl | rfl
  all_goals
    obtain ⟨a1, a0, c1, c0, rest, rfl⟩ := cases4 data h
    simp only [respond, if_neg (Nat.not_lt.mpr h), List.getD_cons_zero, List.getD_cons_succ, ← word.eq_1, reqReadBits]
    refine .ite (fun _ => .exception _ _) fun hq => .ite (fun _ => .exception _ _) fun _ => ?_
    rw [readBits_eq, Nat.mod_eq_of_lt (by unfold maxReadBits at hq; omega)]
    cases allSome _ with
    | none => exact .exception _ _
    | some bits => exact .normal _ _ _

theorem reply_readWords (hfc : fc = 3 ∨ fc = 4) (h : fixedLen fc ≤ data.length) :
    Reply rs fc (reqReadWords rs fc data) (respond rs fc data) := by
  rcases hfc with rfl | rfl
  all_goals
    obtain ⟨a1, a0, c1, c0, rest, rfl⟩ := cases4 data h
    simp only [respond, if_neg (Nat.not_lt.mpr h), List.getD_cons_zero, List.getD_cons_succ, ← word.eq_1, reqReadWords]
    refine .ite (fun _ => .exception _ _) fun _ => .ite (fun _ => .exception _ _) fun _ => ?_
    rw [readWords_eq, u8_mod, Nat.mul_comm _ 2, be16_eq]
    cases allSome _ with
    | none => exact .exception _ _
    | some vals => exact .normal _ _ _

theorem reply_writeCoil (h : fixedLen 5 ≤ data.length) :
    Reply rs 5 (reqWriteCoil rs data) (respond rs 5 data) := by
  obtain ⟨a1, a0, v1, v0, rest, rfl⟩ := cases4 data h
  simp only [respond, if_neg (Nat.not_lt.mpr h), List.getD_cons_zero, List.getD_cons_succ, ← word.eq_1, reqWriteCoil]
  refine .ite (fun _ => .exception _ _) fun _ => ?_
  unfold writeCoil
  cases readReg rs _ with
  | none => exact .exception _ _
  | some rv =>
    simp only [writeReg_eq rs _ _ (Nat.lt_of_le_of_lt (Nat.div_le_self _ _) (word_lt a1 a0))]
    cases validatorOf rs _ with
    | none => exact .exception _ _
    | some ok =>
      dsimp only
      cases ok _ with
      | false => exact .exception _ _
      | true => exact .normal _ _ _

theorem reply_writeReg (h : fixedLen 6 ≤ data.length) :
    Reply rs 6 (reqWriteReg rs data) (respond rs 6 data) := by
  obtain ⟨a1, a0, v1, v0, rest, rfl⟩ := cases4 data h
  simp only [respond, if_neg (Nat.not_lt.mpr h), List.getD_cons_zero, List.getD_cons_succ, ← word.eq_1, reqWriteReg]
  rw [writeReg_eq rs _ _ (word_lt a1 a0)]
  cases validatorOf rs _ with
  | none => exact .exception _ _
  | some ok =>
    dsimp only
    cases ok _ with
    | false => exact .exception _ _
    | true => exact .normal _ _ _

theorem reply_writeCoils (h : fixedLen 15 ≤ data.length) :
    Reply rs 15 (reqWriteCoils rs data) (respond rs 15 data) := by
  obtain ⟨a1, a0, q1, q0, _ | ⟨bc, bytes⟩, rfl⟩ := cases4 data (Nat.le_trans (by decide) h)
  · exact absurd h (by decide : ¬ 6 ≤ 4)
  simp only [respond, if_neg (Nat.not_lt.mpr h), List.getD_cons_zero, List.getD_cons_succ, ← word.eq_1, reqWriteCoils,
    List.drop_succ_cons, List.drop_zero, List.take_succ_cons, List.take_zero]
  refine .ite (fun _ => .exception _ _) fun _ => .ite (fun _ => .exception _ _) fun _ => ?_
  cases writeBits rs _ _ _ _ with
  | mk e rs' =>
    cases e with
    | none => exact .normal _ _ _
    | some e => exact .abandoned (.inl rfl) _ _ _

theorem reply_writeRegs (h : fixedLen 16 ≤ data.length) :
    Reply rs 16 (reqWriteRegs rs data) (respond rs 16 data) := by
  obtain ⟨a1, a0, q1, q0, _ | ⟨bc, bytes⟩, rfl⟩ := cases4 data (Nat.le_trans (by decide) h)
  · exact absurd h (by decide : ¬ 7 ≤ 4)
  simp only [respond, if_neg (Nat.not_lt.mpr h), List.getD_cons_zero, List.getD_cons_succ, ← word.eq_1, reqWriteRegs,
    List.drop_succ_cons, List.drop_zero, List.take_succ_cons, List.take_zero]
  refine .ite (fun _ => .exception _ _) fun _ => .ite (fun _ => .exception _ _) fun _ => ?_
  cases writeWords rs _ _ _ _ with
  | mk e rs' =>
    cases e with
    | none => exact .normal _ _ _
    | some e => exact .abandoned (.inr rfl) _ _ _

theorem reply_other (h : fixedLen fc ≤ data.length)
    (h1 : fc ≠ 1) (h2 : fc ≠ 2) (h3 : fc ≠ 3) (h4 : fc ≠ 4) (h5 : fc ≠ 5) (h6 : fc ≠ 6) (h15 : fc ≠ 15) (h16 : fc ≠ 16) :
    Reply rs fc (exc fc excIllegalFunction, rs) (respond rs fc data) := by
  unfold respond
  rw [if_neg (Nat.not_lt.mpr h)]
  split <;> try contradiction
  exact .exception _ _

theorem processRequest_reply (rs : Regs) (fc : Nat) (data : Bytes) (h : fixedLen fc ≤ data.length) :
    Reply rs fc (processRequest rs fc data) (respond rs fc data) := by
  rw [processRequest, if_neg (not_short fc data h)]
  by_cases h12 : fc = 1 ∨ fc = 2
  · rw [if_pos h12]; exact reply_readBits h12 h
  by_cases h34 : fc = 3 ∨ fc = 4
  · rw [if_neg h12, if_pos h34]; exact reply_readWords h34 h
  by_cases h5 : fc = 5
  · subst h5; exact reply_writeCoil h
  by_cases h15 : fc = 15
  · subst h15; exact reply_writeCoils h
  by_cases h6 : fc = 6
  · subst h6; exact reply_writeReg h
  by_cases h16 : fc = 16
  · subst h16; exact reply_writeRegs h
  rw [if_neg h12, if_neg h34, if_neg h5, if_neg h15, if_neg h6, if_neg h16]
  exact reply_other h (h12 ∘ .inl) (h12 ∘ .inr) (h34 ∘ .inl) (h34 ∘ .inr) h5 h6 h15 h16

end Siot.Modbus
