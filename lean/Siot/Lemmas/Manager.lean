import Siot.Model.Manager
import Siot.Lemmas.Basic
/- Lemmas for C07 (Siot/Model/Manager.lean): the walk for wanted placements against `Path`; the bookkeeping through what one
   scan does to the clients (`mem_scan`) and two phase invariants, `Settling` after a scan and `Stopped` after Stop. -/
namespace Siot.Manager
open Siot Siot.Store

/-- `b` can be reached from `a` going down through non-deleted edges whose child is of a parent type -/
inductive Path (lv : List Edge) (pt : List Bytes) : Bytes → Bytes → Prop
  | refl (a : Bytes) : Path lv pt a a
  | step (a b : Bytes) (e : Edge) : e ∈ lv → e.up = a → pt.contains e.typ = true → Path lv pt e.down b → Path lv pt a b

theorem mem_scanH_succ (lv : List Edge) (typ : Bytes) (pt : List Bytes) (fuel : Nat) (a : Bytes) (k : Key) :
    k ∈ scanH lv typ pt (fuel + 1) a ↔ (∃ e, (e ∈ lv ∧ e.up = a ∧ e.typ = typ) ∧ (e.up, e.down) = k) ∨
      ∃ p, (p ∈ lv ∧ p.up = a ∧ pt.contains p.typ = true) ∧ k ∈ scanH lv typ pt fuel p.down := by
  simp only [scanH, List.mem_append, List.mem_map, List.mem_filter, Bool.and_eq_true, beq_iff_eq, List.mem_flatMap]

theorem scanH_sound {lv : List Edge} {typ : Bytes} {pt : List Bytes} {fuel : Nat} {a : Bytes} {k : Key}
    (h : k ∈ scanH lv typ pt fuel a) : Path lv pt a k.1 ∧ ∃ e ∈ lv, e.up = k.1 ∧ e.down = k.2 ∧ e.typ = typ := by
  induction fuel generalizing a with
  | zero => cases h
  | succ fuel ih =>
    rcases (mem_scanH_succ ..).mp h with ⟨e, ⟨he, hup, htyp⟩, rfl⟩ | ⟨p, ⟨hp, hup, hpt⟩, hk⟩
    · exact ⟨hup ▸ .refl _, e, he, rfl, rfl, htyp⟩
    · exact ⟨.step a k.1 p hp hup hpt (ih hk).1, (ih hk).2⟩

/-- `h`: any measure that falls along the edges walked; the walk is complete from every node it has the fuel for -/
theorem scanH_complete {lv : List Edge} {typ : Bytes} {pt : List Bytes} (h : Bytes → Nat) (hh : ∀ e ∈ lv, h e.down < h e.up)
    {fuel : Nat} {a b : Bytes} (hlt : h a < fuel) (hp : Path lv pt a b) {e : Edge} (he : e ∈ lv) (hup : e.up = b)
    (htyp : e.typ = typ) : (e.up, e.down) ∈ scanH lv typ pt fuel a := by
  induction fuel generalizing a with
  | zero => cases hlt
  | succ fuel ih =>
    rw [mem_scanH_succ]
    cases hp with
    | refl => exact Or.inl ⟨e, ⟨he, hup, htyp⟩, rfl⟩
    | step _ _ p hpl hpu hpt hrest =>
      have hfall := hh p hpl
      rw [hpu] at hfall
      exact Or.inr ⟨p, ⟨hpl, hpu, hpt⟩, ih (by omega) hrest⟩

def keys (cs : List Client) : List Key := cs.map (·.key)
def wkeys (w : Want) : List Key := w.map (·.1)

theorem mem_keys {cs : List Client} {k : Key} : k ∈ keys cs ↔ ∃ c ∈ cs, c.key = k := List.mem_map

theorem hasKey_iff {cs : List Client} {k : Key} : hasKey cs k = true ↔ k ∈ keys cs := by
  simp only [hasKey, keys, List.any_eq_true, beq_iff_eq, List.mem_map]

/-- the first entry of a key in the want list: what a client started now is constructed with -/
def lookupW : Want → Key → Option (List Bytes)
  | [], _ => none
  | (k', ch) :: w, k => if k' = k then some ch else lookupW w k

theorem lookupW_cons (k' k : Key) (ch : List Bytes) (w : Want) :
    lookupW ((k', ch) :: w) k = if k' = k then some ch else lookupW w k := rfl

theorem lookupW_some_of_mem (w : Want) (k : Key) (h : k ∈ wkeys w) : ∃ ch, lookupW w k = some ch := by
  induction w with
  | nil => cases h
  | cons x w ih =>
    rw [lookupW_cons]
    by_cases hk : x.1 = k
    · exact ⟨_, if_pos hk⟩
    · rw [if_neg hk]
      exact ih ((List.mem_cons.mp h).resolve_left (Ne.symm hk))

theorem lookupW_mem {w : Want} {k : Key} {ch : List Bytes} (h : lookupW w k = some ch) : k ∈ wkeys w := by
  induction w with
  | nil => cases h
  | cons x w ih =>
    by_cases hk : x.1 = k
    · exact List.mem_cons.mpr (Or.inl hk.symm)
    · rw [lookupW_cons, if_neg hk] at h
      exact List.mem_cons_of_mem _ (ih h)

theorem wkeys_startable {bad : List Key} {w : Want} {k : Key} : k ∈ wkeys (startable bad w) ↔ k ∈ wkeys w ∧ k ∉ bad := by
  simp only [wkeys, startable, List.mem_map, List.mem_filter, Bool.not_eq_true', List.contains_eq_mem, decide_eq_false_iff_not]
  constructor
  · rintro ⟨x, ⟨hx, hb⟩, rfl⟩
    exact ⟨⟨x, hx, rfl⟩, hb⟩
  · rintro ⟨⟨x, hx, rfl⟩, hb⟩
    exact ⟨x, ⟨hx, hb⟩, rfl⟩

theorem lookupW_startable (bad : List Key) (k : Key) (w : Want) :
    lookupW (startable bad w) k = if bad.contains k then none else lookupW w k := by
  induction w with
  | nil => exact (ite_self _).symm
  | cons x w ih =>
    obtain ⟨k', ch⟩ := x
    have hcons : startable bad ((k', ch) :: w) = if bad.contains k' then startable bad w else (k', ch) :: startable bad w := by
      rw [startable, List.filter_cons]
      cases bad.contains k' <;> rfl
    rw [hcons, lookupW_cons]
    -- an entry for `k` itself is dropped exactly when `k` is bad; any other entry is looked past on both sides
    by_cases hk : k' = k
    · subst hk
      cases hb : bad.contains k' <;> simp only [hb, lookupW_cons, ih, ↓reduceIte, Bool.false_eq_true]
    · cases bad.contains k' <;> simp only [hk, lookupW_cons, ih, ↓reduceIte, Bool.false_eq_true]

/-- tell the clients of the placements `p` to stop: the marking pass of scan, a trigger, Stop -/
def stopIf (p : Key → Bool) (cs : List Client) : List Client :=
  cs.map (fun c => if p c.key then { c with stopping := true } else c)

theorem keys_stopIf (p : Key → Bool) (cs : List Client) : keys (stopIf p cs) = keys cs := by
  simp only [keys, stopIf, List.map_map]
  refine List.map_congr_left fun c _ => ?_
  simp only [Function.comp_apply]
  split <;> rfl

theorem key_of_mem_stopIf {p : Key → Bool} {cs : List Client} {c : Client} (h : c ∈ stopIf p cs) : ∃ c0 ∈ cs, c0.key = c.key :=
  mem_keys.mp (keys_stopIf p cs ▸ mem_keys.mpr ⟨c, h, rfl⟩)

theorem running_of_mem_stopIf {p : Key → Bool} {cs : List Client} {c : Client} (h : c ∈ stopIf p cs)
    (hs : c.stopping = false) : c ∈ cs ∧ p c.key = false := by
  obtain ⟨c0, hc0, rfl⟩ := List.mem_map.mp h
  by_cases h0 : p c0.key = true
  · rw [if_pos h0] at hs; cases hs
  · rw [if_neg h0]; exact ⟨hc0, by simpa using h0⟩

theorem stopping_of_mem_stopIf {p : Key → Bool} {cs : List Client} {c : Client} (h : c ∈ stopIf p cs)
    (hp : p c.key = true) : c.stopping = true := by
  obtain ⟨c0, _, rfl⟩ := List.mem_map.mp h
  by_cases h0 : p c0.key = true
  · rw [if_pos h0]
  · rw [if_neg h0] at hp; exact absurd hp h0

theorem keys_snoc (cs : List Client) (c : Client) : keys (cs ++ [c]) = keys cs ++ [c.key] := List.map_append

theorem startNew_cons (k : Key) (ch : List Bytes) (w : Want) (cs : List Client) :
    startNew ((k, ch) :: w) cs = if hasKey cs k then startNew w cs else startNew w (cs ++ [⟨k, ch, false⟩]) := rfl

theorem mem_startNew (c : Client) (w : Want) (cs : List Client) :
    c ∈ startNew w cs ↔ c ∈ cs ∨ (c.key ∉ keys cs ∧ c.stopping = false ∧ lookupW w c.key = some c.children) := by
  induction w generalizing cs with
  | nil => simp [startNew, lookupW]
  | cons x w ih =>
    obtain ⟨k, ch⟩ := x
    rw [startNew_cons, lookupW_cons]
    by_cases hk : k ∈ keys cs
    · rw [if_pos (hasKey_iff.mpr hk), ih]
      refine or_congr_right (and_congr_right fun hc => ?_)
      rw [if_neg fun e : k = c.key => hc (e ▸ hk)]
    · rw [if_neg (mt hasKey_iff.mp hk), ih, List.mem_append, List.mem_singleton, or_assoc, keys_snoc]
      refine or_congr_right ?_
      by_cases hkc : k = c.key
      · -- a new client for placement `k` is the one just appended, `⟨k, ch, false⟩`, and nothing else
        rw [if_pos hkc, or_iff_left fun h => h.1 (List.mem_append_right _ (List.mem_singleton.mpr hkc.symm))]
        constructor
        · rintro rfl
          exact ⟨hk, rfl, rfl⟩
        · rintro ⟨_, hs, hch⟩
          obtain ⟨ck, cch, cst⟩ := c
          subst hkc hs
          cases hch
          rfl
      · -- for any other placement the appended client changes nothing
        obtain ⟨ck, cch, cst⟩ := c
        simp [hkc, Ne.symm hkc]

theorem mem_keys_startNew {w : Want} {cs : List Client} {k : Key} : k ∈ keys (startNew w cs) ↔ k ∈ keys cs ∨ k ∈ wkeys w := by
  constructor
  · intro h
    obtain ⟨c, hc, rfl⟩ := mem_keys.mp h
    exact ((mem_startNew c w cs).mp hc).imp (fun h => mem_keys.mpr ⟨c, h, rfl⟩) fun h => lookupW_mem h.2.2
  · intro h
    by_cases hk : k ∈ keys cs
    · obtain ⟨c, hc, rfl⟩ := mem_keys.mp hk
      exact mem_keys.mpr ⟨c, (mem_startNew c w cs).mpr (Or.inl hc), rfl⟩
    · obtain ⟨ch, hch⟩ := lookupW_some_of_mem w k (h.resolve_left hk)
      exact mem_keys.mpr ⟨⟨k, ch, false⟩, (mem_startNew _ w cs).mpr (Or.inr ⟨hk, rfl, hch⟩), rfl⟩

theorem nodup_startNew {w : Want} {cs : List Client} (h : (keys cs).Nodup) : (keys (startNew w cs)).Nodup := by
  induction w generalizing cs with
  | nil => exact h
  | cons x w ih =>
    rw [startNew_cons]
    by_cases hk : x.1 ∈ keys cs
    · rw [if_pos (hasKey_iff.mpr hk)]
      exact ih h
    · rw [if_neg (mt hasKey_iff.mp hk)]
      refine ih ?_
      rw [keys_snoc]
      refine List.nodup_append.mpr ⟨h, List.pairwise_singleton _ _, fun a ha b hb e => hk ?_⟩
      obtain rfl := List.mem_singleton.mp hb
      subst e
      exact ha

/-- the placements the marking pass of a scan for `w` tells to stop -/
def unwanted (w : Want) (k : Key) : Bool := !w.any (fun x => x.1 == k)

theorem wany_iff {w : Want} {k : Key} : w.any (fun x => x.1 == k) = true ↔ k ∈ wkeys w := by
  simp only [List.any_eq_true, beq_iff_eq, wkeys, List.mem_map]

theorem unwanted_iff {w : Want} {k : Key} : unwanted w k = true ↔ k ∉ wkeys w := by
  rw [unwanted, Bool.not_eq_true', ← wany_iff, Bool.not_eq_true]

theorem scan_eq {bad : List Key} {w : Want} {m : Mgr} (h : m.stopping = false) :
    scan bad w m = { m with clients := startNew (startable bad w) (stopIf (unwanted w) m.clients) } := by
  simp only [scan, h, Bool.false_eq_true, if_false]
  -- the two sides differ in how the marking pass is written: "keep if wanted" against "stop if unwanted"
  congr 2
  exact List.map_congr_left fun c _ => by unfold unwanted; cases w.any (fun x => x.1 == c.key) <;> rfl

theorem mem_scan (bad : List Key) (w : Want) (m : Mgr) (h : m.stopping = false) (c : Client) :
    c ∈ (scan bad w m).clients ↔ c ∈ stopIf (unwanted w) m.clients ∨
      (c.key ∉ keys m.clients ∧ c.stopping = false ∧ c.key ∉ bad ∧ lookupW w c.key = some c.children) := by
  rw [scan_eq h, mem_startNew, keys_stopIf, lookupW_startable]
  refine or_congr_right (and_congr_right fun _ => and_congr_right fun _ => ?_)
  by_cases hb : c.key ∈ bad
  · rw [if_pos (List.contains_iff_mem.mpr hb)]
    exact ⟨fun h => (nomatch h), fun h => absurd hb h.1⟩
  · rw [if_neg (mt List.contains_iff_mem.mp hb)]
    exact (and_iff_right hb).symm

theorem scan_nodup {bad : List Key} {w : Want} {m : Mgr} (h : (keys m.clients).Nodup) : (keys (scan bad w m).clients).Nodup := by
  cases hs : m.stopping with
  | true => rw [scan, if_pos hs]; exact h
  | false => rw [scan_eq hs]; exact nodup_startNew (by rwa [keys_stopIf])

/-- the state a fixed want list `w` drives the manager to: every wanted placement whose client can be constructed
    has a client, and every client of an unwanted placement has been told to stop -/
structure Toward (bad : List Key) (w : Want) (m : Mgr) : Prop where
  nodup : (keys m.clients).Nodup
  have_all : ∀ k ∈ wkeys w, k ∉ bad → k ∈ keys m.clients
  extra_stopping : ∀ c ∈ m.clients, c.key ∉ wkeys w → c.stopping = true
  live : m.stopping = false ∧ m.done = false

/-- a running (not stopping) client holds the children the store has now -/
def Fresh (w : Want) (m : Mgr) : Prop :=
  ∀ c ∈ m.clients, c.stopping = false → ∀ ch, lookupW w c.key = some ch → c.children = ch

/-- what a scan for `w` establishes and the exits after it keep: on the way toward `w`, running clients current, and
    no client constructed for a placement in `bad` (`K`: any set of placements that held the clients before) -/
structure Settling (bad : List Key) (w : Want) (K : List Key) (m : Mgr) : Prop where
  toward : Toward bad w m
  fresh : Fresh w m
  nobad : ∀ k ∈ keys m.clients, k ∈ bad → k ∈ K

theorem mem_keys_scan {bad : List Key} {w : Want} {m : Mgr} (hs : m.stopping = false) {k : Key} :
    k ∈ keys (scan bad w m).clients ↔ k ∈ keys m.clients ∨ (k ∈ wkeys w ∧ k ∉ bad) := by
  rw [scan_eq hs, mem_keys_startNew, keys_stopIf, wkeys_startable]

theorem scan_toward {bad : List Key} {w : Want} {m : Mgr} (hnd : (keys m.clients).Nodup) (hl : m.stopping = false ∧ m.done = false) :
    Toward bad w (scan bad w m) := by
  have hmem := mem_scan bad w m hl.1
  refine ⟨scan_nodup hnd, fun k hkw hnb => ?_, fun c hc hnw => ?_, by rwa [scan_eq hl.1]⟩
  · exact (mem_keys_scan hl.1).mpr (.inr ⟨hkw, hnb⟩)
  · rcases (hmem c).mp hc with h | ⟨_, _, _, h⟩
    · exact stopping_of_mem_stopIf h (unwanted_iff.mpr hnw)
    · exact absurd (lookupW_mem h) hnw

theorem scan_fresh {bad : List Key} {w : Want} {m : Mgr} (hl : m.stopping = false) (hf : Fresh w m) : Fresh w (scan bad w m) := by
  intro c hc hs ch hch
  rcases (mem_scan bad w m hl c).mp hc with h | ⟨_, _, _, h⟩
  · exact hf c (running_of_mem_stopIf h hs).1 hs ch hch
  · exact Option.some.inj (h.symm.trans hch)

/-- a scan never constructs a client for a placement whose construction fails -/
theorem scan_keys_sub {bad : List Key} {w : Want} {m : Mgr} {k : Key} (h : k ∈ keys (scan bad w m).clients) :
    k ∈ keys m.clients ∨ (k ∈ wkeys w ∧ k ∉ bad) := by
  cases hs : m.stopping with
  | true =>
    rw [scan, if_pos hs] at h
    exact Or.inl h
  | false => exact (mem_keys_scan hs).mp h

theorem scan_settling {bad : List Key} {w : Want} {m : Mgr} {K : List Key} (hnd : (keys m.clients).Nodup)
    (hl : m.stopping = false ∧ m.done = false) (hf : Fresh w m) (hK : ∀ k ∈ keys m.clients, k ∈ bad → k ∈ K) :
    Settling bad w K (scan bad w m) :=
  ⟨scan_toward hnd hl, scan_fresh hl.1 hf, fun k hk hb =>
    (scan_keys_sub hk).elim (fun h => hK k h hb) fun h => absurd hb h.2⟩

def without (k : Key) (cs : List Client) : List Client := cs.filter (fun c => !(c.key == k))

theorem mem_without {k : Key} {cs : List Client} {c : Client} : c ∈ without k cs ↔ c ∈ cs ∧ c.key ≠ k := by
  rw [without, List.mem_filter, Bool.not_eq_true', beq_eq_false_iff_ne]

theorem keys_filter (cs : List Client) (p : Client → Bool) : (keys (cs.filter p)).Sublist (keys cs) :=
  List.Sublist.map _ List.filter_sublist

theorem keys_filter_nodup {cs : List Client} {p : Client → Bool} (h : (keys cs).Nodup) : (keys (cs.filter p)).Nodup :=
  (keys_filter cs p).nodup h

theorem keys_without (k : Key) (cs : List Client) : (keys (without k cs)).Sublist (keys cs) :=
  keys_filter cs _

/-- the client of placement `k` has been told to stop: only then does its Run return -/
def leaves (m : Mgr) (k : Key) : Bool := m.clients.any (fun c => c.key == k && c.stopping)

theorem leaves_of_mem {m : Mgr} {c : Client} (hc : c ∈ m.clients) (hs : c.stopping = true) : leaves m c.key = true :=
  List.any_eq_true.mpr ⟨c, hc, by rw [hs, beq_self_eq_true]; rfl⟩

theorem step_scan (m : Mgr) (w : Want) (bad : List Key) : step m (.scan w bad) = if m.done then m else scan bad w m := rfl

theorem clients_trigger (m : Mgr) (k : Key) : (step m (.trigger k)).clients = stopIf (· == k) m.clients := rfl

theorem clients_stop (m : Mgr) : (step m .stop).clients = stopIf (fun _ => true) m.clients := rfl

theorem step_exited (m : Mgr) (k : Key) (w : Want) (bad : List Key) : step m (.exited k w bad) =
    if leaves m k then
      if m.stopping then { m with clients := without k m.clients, done := (without k m.clients).isEmpty || m.done }
      else scan bad w { m with clients := without k m.clients }
    else m := rfl

/-- the exit of a client while the manager is running: nothing happens, or the clients of that placement go and a rescan follows -/
theorem exited_cases {P : Mgr → Prop} {m : Mgr} (hs : m.stopping = false) (k : Key) (w : Want) (bad : List Key) (hm : P m)
    (hscan : P (scan bad w { m with clients := without k m.clients })) : P (step m (.exited k w bad)) := by
  rw [step_exited, if_neg (Bool.eq_false_iff.mp hs)]
  by_cases hl : leaves m k = true
  · rwa [if_pos hl]
  · rwa [if_neg hl]

theorem exited_toward {bad : List Key} {w : Want} {m : Mgr} (h : Toward bad w m) (k : Key) : Toward bad w (step m (.exited k w bad)) :=
  exited_cases h.live.1 k w bad h (scan_toward (keys_filter_nodup h.nodup) h.live)

theorem exited_settling {bad : List Key} {w : Want} {K : List Key} {m : Mgr} (h : Settling bad w K m) (k : Key) :
    Settling bad w K (step m (.exited k w bad)) :=
  exited_cases h.toward.live.1 k w bad h (scan_settling (keys_filter_nodup h.toward.nodup) h.toward.live
    (fun c hc => h.fresh c (mem_without.mp hc).1) fun k' hk' => h.nobad k' ((keys_without k _).subset hk'))

theorem exits_settling {bad : List Key} {w : Want} {K : List Key} {m : Mgr} (h : Settling bad w K m) (ks : List Key) :
    Settling bad w K (run m (ks.map (fun k => Event.exited k w bad))) := by
  induction ks generalizing m with
  | nil => exact h
  | cons k ks ih => exact ih (exited_settling h k)

theorem triggers_running {ks : List Key} {m : Mgr} {c : Client} (hc : c ∈ (ks.foldl (fun m k => step m (.trigger k)) m).clients)
    (hs : c.stopping = false) : c ∈ m.clients ∧ c.key ∉ ks := by
  induction ks generalizing m with
  | nil => exact ⟨hc, List.not_mem_nil⟩
  | cons k ks ih =>
    obtain ⟨h1, h2⟩ := ih hc
    rw [clients_trigger] at h1
    obtain ⟨h3, h4⟩ := running_of_mem_stopIf h1 hs
    exact ⟨h3, fun h => (List.mem_cons.mp h).elim (beq_eq_false_iff_ne.mp h4) h2⟩

/-- Stop has been called: nothing is started any more and every client has been told to stop -/
structure Stopped (m : Mgr) : Prop where
  stopping : m.stopping = true
  all : ∀ c ∈ m.clients, c.stopping = true
  done : m.clients = [] → m.done = true

theorem exited_stopped {m : Mgr} (h : Stopped m) (k : Key) (w : Want) (bad : List Key) :
    Stopped (step m (.exited k w bad)) ∧
      ∀ c, c ∈ (step m (.exited k w bad)).clients ↔ c ∈ m.clients ∧ c.key ≠ k := by
  rw [step_exited, if_pos h.stopping]
  by_cases hl : leaves m k = true
  · rw [if_pos hl]
    exact ⟨⟨h.stopping, fun c hc => h.all c (mem_without.mp hc).1,
      fun he => Bool.or_eq_true_iff.mpr (Or.inl (List.isEmpty_iff.mpr he))⟩, fun _ => mem_without⟩
  · rw [if_neg hl]
    exact ⟨h, fun c => (and_iff_left_of_imp fun hc (e : c.key = k) => hl (e ▸ leaves_of_mem hc (h.all c hc))).symm⟩

theorem exits_stopped {m : Mgr} (h : Stopped m) (ks : List (Key × Want)) (bad : List Key) :
    let m' := run m (ks.map (fun x => Event.exited x.1 x.2 bad))
    Stopped m' ∧ ∀ c ∈ m'.clients, c ∈ m.clients ∧ c.key ∉ ks.map (·.1) := by
  induction ks generalizing m with
  | nil => exact ⟨h, fun _ hc => ⟨hc, List.not_mem_nil⟩⟩
  | cons x ks ih =>
    obtain ⟨h1, h2⟩ := exited_stopped h x.1 x.2 bad
    obtain ⟨h3, h4⟩ := ih h1
    refine ⟨h3, fun c hc => ?_⟩
    obtain ⟨hc3, hc4⟩ := (h2 c).mp (h4 c hc).1
    exact ⟨hc3, fun hm => (List.mem_cons.mp hm).elim hc4 (h4 c hc).2⟩

theorem step_nodup (m : Mgr) (e : Event) (h : (keys m.clients).Nodup) : (keys (step m e).clients).Nodup := by
  cases e with
  | scan w bad =>
    rw [step_scan]
    split
    · exact h
    · exact scan_nodup h
  | trigger k => rwa [clients_trigger, keys_stopIf]
  | exited k w bad =>
    have hw : (keys (without k m.clients)).Nodup := keys_filter_nodup h
    rw [step_exited]
    split
    · split
      · exact hw
      · exact scan_nodup hw
    · exact h
  | stop => rwa [clients_stop, keys_stopIf]

theorem run_nodup (es : List Event) (m : Mgr) (h : (keys m.clients).Nodup) : (keys (run m es).clients).Nodup := by
  induction es generalizing m with
  | nil => exact h
  | cons e es ih => exact ih _ (step_nodup m e h)

end Siot.Manager
