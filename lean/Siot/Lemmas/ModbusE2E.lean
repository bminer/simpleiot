import Siot.Lemmas.ModbusFraming
import Siot.Lemmas.Modbus
/-
The client cycle: over either framing the client sees the server's response PDU (`exchange_ok`); what the server
answers to the client's read requests; the client's decoders invert the server's encoders; the conversions of data.go.
-/
namespace Siot.Modbus
open Siot Siot.Modbus.Spec

theorem reqRead_eq (a n : Nat) :
    reqRead a n = [u8 (a / 256 % 256), u8 (a % 256), u8 (n / 256 % 256), u8 (n % 256)] := rfl

/-- the response PDU (function code, data) in which the server sends an outcome: `handleError`
    turns an exception into a one-byte PDU, so that `exchange` frames both kinds alike -/
def Outcome.pdu : Outcome → Option (Nat × Bytes)
  | .normal f d => some (f, d)
  | .exception f c => some (f, [u8 c])
  | _ => none

/-- a PDU that either framing carries whole: the function code is one byte, the data is not empty (`TCP.Decode` asks for
nine bytes) and the frame fits the read buffers -/
def FitsADU (fc : Nat) (data : Bytes) : Prop := fc < 256 ∧ data ≠ [] ∧ data.length + 8 ≤ maxADULen

theorem fitsADU_reqRead {fc : Nat} (hfc : fc < 256) (a n : Nat) : FitsADU fc (reqRead a n) :=
  ⟨hfc, List.cons_ne_nil _ _, (by decide : 4 + 8 ≤ 260)⟩

theorem exchange_ok (fr : Framing) (tx : Nat) (htx : tx < 65536) (id : UInt8) {rs rs' : Regs} {fc rfc : Nat}
    {data rdata : Bytes} {o : Outcome} (hq : FitsADU fc data) (hp : processRequest rs fc data = (o, rs'))
    (ho : o.pdu = some (rfc, rdata)) (ha : FitsADU rfc rdata) :
    exchange fr maxADULen tx id rs fc data = (.ok (rfc, rdata), rs') := by
  obtain ⟨hfc, hd, hdl⟩ := hq
  obtain ⟨hrfc, hr, hrl⟩ := ha
  obtain ⟨d0, drest, rfl⟩ := List.exists_cons_of_ne_nil hd
  obtain ⟨r0, rrest, rfl⟩ := List.exists_cons_of_ne_nil hr
  -- whichever kind of answer (`cases ho` leaves the two that have a PDU): both frames pass uncut and decode to what was sent
  cases fr
  · cases o <;> cases ho <;>
      simp only [exchange, hp, rtuEncode_take _ _ _ _ hdl, rtuEncode_take _ _ _ _ hrl, rtu_roundtrip id fc hfc,
        rtu_roundtrip id rfc hrfc]
  · cases o <;> cases ho <;>
      simp only [exchange, hp, tcpEncode_take _ _ _ _ _ hdl, tcpEncode_take _ _ _ _ _ hrl,
        tcp_server_roundtrip tx htx id fc hfc, tcp_roundtrip tx htx id rfc hrfc]

theorem processRequest_readWords (rs : Regs) (fc : Nat) (hfc : fc = 3 ∨ fc = 4) (a n : Nat)
    (ha : a < 65536) (hn1 : 1 ≤ n) (hn : n ≤ 125) (hr : a + n ≤ 65536) (vals : List Nat)
    (hv : allSome ((List.range n).map (fun i => readReg rs (a + i))) = some vals) :
    processRequest rs fc (reqRead a n) = (.normal fc (u8 (n * 2 % 256) :: vals.flatMap be16), rs) := by
  rw [processRequest, if_neg (not_short fc _ (by rcases hfc with rfl | rfl <;> exact Nat.le_refl 4)),
    if_neg (by omega), if_pos hfc]
  simp only [reqRead_eq, reqReadWords, word, join_put a ha, join_put n (Nat.lt_of_le_of_lt hn (by decide)), readWords_eq, hv]
  exact (if_neg (not_or.mpr ⟨Nat.not_lt.mpr hn1, Nat.not_lt.mpr hn⟩)).trans (if_neg (Nat.not_lt.mpr hr))

theorem words_be16 (vals : List Nat) (h : ∀ v ∈ vals, v < 65536) : words (vals.flatMap be16) = vals := by
  induction vals with
  | nil => rfl
  | cons v vs ih =>
    rw [List.forall_mem_cons] at h
    simp only [List.flatMap_cons, be16, List.cons_append, List.nil_append, words, join_put v h.1, ih h.2]

theorem flatMap_be16_length (vals : List Nat) : (vals.flatMap be16).length = 2 * vals.length := by
  induction vals with
  | nil => rfl
  | cons v vs ih => rw [List.flatMap_cons, List.length_append, ih, List.length_cons, Nat.mul_succ, Nat.add_comm]; rfl

theorem respReadRegs_ok (fc : Nat) (hfc : fc = 3 ∨ fc = 4) (bc : UInt8) (body : Bytes) (h0 : 0 < body.length)
    (hbc : bc.toNat / 2 * 2 = body.length) : respReadRegs fc (bc :: body) = .ok (words body) := by
  cases body with
  | nil => exact absurd h0 (Nat.lt_irrefl 0)
  | cons b0 rest =>
    simp only [respReadRegs, hbc]
    rw [if_neg (by omega), if_neg (by simp only [List.length_cons]; omega), List.take_length]

/-- `127`: the byte count `2 * vals.length` has to fit the one byte that carries it -/
theorem respReadRegs_be16 (fc : Nat) (hfc : fc = 3 ∨ fc = 4) (vals : List Nat) (h1 : 1 ≤ vals.length)
    (hl : vals.length ≤ 127) (h16 : ∀ v ∈ vals, v < 65536) :
    respReadRegs fc (u8 (vals.length * 2 % 256) :: vals.flatMap be16) = .ok vals := by
  have h2 : vals.length * 2 < 256 := Nat.lt_of_le_of_lt (Nat.mul_le_mul_right 2 hl) (by decide)
  rw [respReadRegs_ok fc hfc _ _ (by rw [flatMap_be16_length]; exact Nat.mul_pos (by decide) h1)
      (by rw [Nat.mod_eq_of_lt h2, u8_toNat _ h2, Nat.mul_div_cancel _ (by decide), flatMap_be16_length, Nat.mul_comm]),
    words_be16 _ h16]

theorem respReadBitsCount_statusBytes (fc : Nat) (hfc : fc = 1 ∨ fc = 2) (bits : List Bool)
    (hl : (bits.length + 7) / 8 < 256) :
    respReadBitsCount fc (u8 ((bits.length + 7) / 8) :: statusBytes ((bits.length + 7) / 8) bits) bits.length =
      .ok bits := by
  rw [respReadBitsCount, if_neg (fun h => hfc.elim h.1 h.2), u8_toNat _ hl, List.length_cons, statusBytes_length,
    if_neg (not_or.mpr ⟨(· rfl), (· (Nat.add_comm _ 1))⟩)]
  -- what is left: the `i`-th decoded value is `bits[i]`; coil `i` sits in bit `i % 8` of status byte `i / 8`
  refine congrArg _ (List.ext_getElem (by rw [List.length_map, List.length_range]) fun i h hi => ?_)
  have hbyte : (statusBytes ((bits.length + 7) / 8) bits).getD (i / 8) 0 = u8 (statusByte bits (i / 8)) :=
    statusBytes_getD _ _ _ (by omega)
  have hbit : (statusByte bits (i / 8)).testBit (i % 8) = bits.getD i false := by
    rw [(statusByte_spec bits _).2 _ (Nat.mod_lt _ (by decide)), Nat.div_add_mod]
  rw [List.getElem_map, List.getElem_range, hbyte, u8_toNat _ (statusByte_spec bits _).1, byte_bit, hbit,
    List.getD_eq_getElem?_getD, List.getElem?_eq_getElem hi, Option.getD_some]

theorem ofSigned_toSigned (bits n : Nat) (h : n < 2 ^ bits) : ofSigned bits (toSigned bits n) = n := by
  have hm : ((n : Int) % 2 ^ bits).toNat = n := by
    rw [Int.emod_eq_of_lt (Int.natCast_nonneg n) (by exact_mod_cast h), Int.toNat_natCast]
  unfold ofSigned toSigned
  split
  · rw [Int.sub_emod_right, hm]
  · exact hm

/-- With `p = 2 ^ (bits - 1)`: a non-negative `i` is its own residue modulo `2 p` and lies below `p`;
    a negative one has residue `i + 2 p`, which is at least `p`. -/
theorem toSigned_ofSigned (bits : Nat) (hb : 1 ≤ bits) (i : Int)
    (h1 : -(2 ^ (bits - 1) : Int) ≤ i) (h2 : i < 2 ^ (bits - 1)) : toSigned bits (ofSigned bits i) = i := by
  obtain ⟨k, rfl⟩ := Nat.exists_eq_add_of_le' hb
  unfold ofSigned toSigned
  rw [Nat.add_sub_cancel, Int.pow_succ, show (2 : Int) ^ k = ((2 ^ k : Nat) : Int) from (Int.natCast_pow 2 k).symm] at *
  generalize 2 ^ k = p at *
  by_cases hi : 0 ≤ i
  · obtain ⟨m, rfl⟩ := Int.eq_ofNat_of_zero_le hi
    rw [Int.emod_eq_of_lt hi (by omega), Int.toNat_natCast, if_neg (Nat.not_le.mpr (Int.ofNat_lt.mp h2))]
  · obtain ⟨q, hq⟩ := Int.eq_ofNat_of_zero_le (by omega : 0 ≤ i + ↑p * 2)
    rw [← Int.add_emod_right, hq, Int.emod_eq_of_lt (Int.natCast_nonneg q) (by omega), Int.toNat_natCast,
      if_pos (by omega), ← hq, Int.add_sub_cancel]

end Siot.Modbus
