import Siot.Lemmas.Hash
/-
Bridge between the executable store model (a list of edge records carrying their hash) and the
abstract hash algebra of Lemmas/Hash.lean (edge keys + a hash assignment).
-/
namespace Siot.Store
open Siot

def keyOf (e : Edge) : EK := (e.up, e.down)
def keysOf (es : List Edge) : List EK := es.map keyOf

theorem mem_keysOf {es : List Edge} {u d : Bytes} : (u, d) ∈ keysOf es ↔ ∃ e ∈ es, e.up = u ∧ e.down = d := by
  rw [keysOf, List.mem_map]
  simp only [keyOf, Prod.mk.injEq]

theorem keysOf_length (es : List Edge) : (keysOf es).length = es.length := List.length_map _

theorem keysOf_filter_subset {es : List Edge} {p : Edge → Bool} {k : EK} (hk : k ∈ keysOf (es.filter p)) : k ∈ keysOf es :=
  (List.filter_sublist.map keyOf).subset hk

theorem find_edge_iff (es : List Edge) (u d : Bytes) :
    (es.find? (fun e => e.up == u && e.down == d)).isSome ↔ (u, d) ∈ keysOf es := by
  rw [List.find?_isSome, mem_keysOf]
  simp only [Bool.and_eq_true, beq_iff_eq]

def hOf (es : List Edge) (k : EK) : Nat :=
  match es.find? (fun e => keyOf e == k) with
  | some e => e.hash
  | none => 0

def toggleList (es : List Edge) (k : EK) (δ : Nat) : List Edge :=
  es.map (fun x => if x.up == k.1 && x.down == k.2 then { x with hash := x.hash ^^^ δ } else x)

theorem toggleList_eq (es : List Edge) (u d : Bytes) (δ : Nat) :
    es.map (fun x => if x.up == u && x.down == d then { x with hash := x.hash ^^^ δ } else x) = toggleList es (u, d) δ := rfl

theorem bump_succ (fuel : Nat) (es : List Edge) (n : Bytes) (δ : Nat) :
    bump (fuel + 1) es n δ =
      (es.filter (fun e => e.down == n)).foldl (fun acc e => bump fuel (toggleList acc (keyOf e) δ) e.up δ) es := rfl

/-- `f` does not look at the hash of an edge: `updateHash` changes nothing that such an `f` sees (`bump_map`) -/
def HashBlind {α} (f : Edge → α) : Prop := ∀ (x : Edge) (h : Nat), f { x with hash := h } = f x

theorem toggleList_def (es : List Edge) (k : EK) (δ : Nat) :
    toggleList es k δ = es.map fun x => { x with hash := x.hash ^^^ ite0 (keyOf x = k) δ } := by
  apply List.map_congr_left
  intro x _
  by_cases h : keyOf x = k
  · subst h; simp [keyOf, ite0]
  · have hc : (x.up == k.1 && x.down == k.2) = false := by simpa [keyOf, Prod.ext_iff] using h
    simp [hc, ite0, h]

theorem toggleList_map {α} (f : Edge → α) (hf : HashBlind f) (es : List Edge) (k : EK) (δ : Nat) :
    (toggleList es k δ).map f = es.map f := by
  rw [toggleList_def, List.map_map]
  exact List.map_congr_left fun x _ => hf x _

theorem bump_map {α} (f : Edge → α) (hf : HashBlind f) (δ : Nat) :
    ∀ (fuel : Nat) (es : List Edge) (n : Bytes), (bump fuel es n δ).map f = es.map f := by
  intro fuel
  induction fuel with
  | zero => intro es n; rfl
  | succ fuel ih =>
    intro es n
    rw [bump_succ]
    exact List.foldlRecOn (motive := fun acc : List Edge => acc.map f = es.map f) _ _ rfl
      fun acc h e _ => by rw [ih, toggleList_map f hf, h]

theorem toggleList_length (es : List Edge) (k : EK) (δ : Nat) : (toggleList es k δ).length = es.length := List.length_map _

theorem keysOf_toggleList (es : List Edge) (k : EK) (δ : Nat) : keysOf (toggleList es k δ) = keysOf es :=
  toggleList_map keyOf (fun _ _ => rfl) es k δ

theorem keysOf_bump (fuel : Nat) (es : List Edge) (n : Bytes) (δ : Nat) : keysOf (bump fuel es n δ) = keysOf es :=
  bump_map keyOf (fun _ _ => rfl) δ fuel es n

theorem length_bump (fuel : Nat) (es : List Edge) (n : Bytes) (δ : Nat) : (bump fuel es n δ).length = es.length := by
  rw [← keysOf_length, keysOf_bump, keysOf_length]

theorem bump_of_no_parent (fuel : Nat) (es : List Edge) (n : Bytes) (δ : Nat) (h : ∀ e ∈ es, e.down ≠ n) :
    bump fuel es n δ = es := by
  cases fuel with
  | zero => rfl
  | succ fuel => rw [bump_succ, List.filter_eq_nil_iff.mpr fun e he => by rw [beq_iff_eq]; exact h e he]; rfl

theorem hOf_cons (x : Edge) (es : List Edge) (k : EK) : hOf (x :: es) k = if keyOf x = k then x.hash else hOf es k := by
  unfold hOf
  rw [List.find?_cons]
  by_cases h : keyOf x = k
  · rw [if_pos h, beq_iff_eq.mpr h]
  · rw [if_neg h, beq_eq_false_iff_ne.mpr h]

theorem hOf_notin (es : List Edge) (k : EK) (h : k ∉ keysOf es) : hOf es k = 0 := by
  induction es with
  | nil => rfl
  | cons x es ih =>
    rw [keysOf, List.map_cons, List.mem_cons, not_or] at h
    rw [hOf_cons, if_neg (Ne.symm h.1), ih h.2]

theorem hOf_mem {es : List Edge} (hnd : (keysOf es).Nodup) {e : Edge} (he : e ∈ es) : hOf es (keyOf e) = e.hash := by
  induction es with
  | nil => cases he
  | cons x es ih =>
    rw [keysOf, List.map_cons, List.nodup_cons] at hnd
    rw [hOf_cons]
    rcases List.mem_cons.mp he with rfl | he
    · rw [if_pos rfl]
    · rw [if_neg (fun hx : keyOf x = keyOf e => hnd.1 (hx ▸ List.mem_map_of_mem he)), ih hnd.2 he]

theorem hOf_append_new {es : List Edge} {e : Edge} (hnew : keyOf e ∉ keysOf es) (k : EK) :
    hOf (es ++ [e]) k = if k = keyOf e then e.hash else hOf es k := by
  induction es with
  | nil =>
    rw [List.nil_append, hOf_cons]
    exact ite_congr (propext eq_comm) (fun _ => rfl) fun _ => rfl
  | cons x es ih =>
    rw [keysOf, List.map_cons, List.mem_cons, not_or] at hnew
    rw [List.cons_append, hOf_cons, hOf_cons, ih hnew.2]
    by_cases hx : keyOf x = k
    · rw [if_pos hx, if_pos hx, if_neg fun h : k = keyOf e => hnew.1 (h.symm.trans hx.symm)]
    · rw [if_neg hx, if_neg hx]

/-- a map that keeps the keys maps the hash that `hOf` finds -/
theorem hOf_map (es : List Edge) {φ : Edge → Edge} (hφ : ∀ x, keyOf (φ x) = keyOf x) (j : EK) :
    hOf (es.map φ) j = match es.find? (fun e => keyOf e == j) with
      | some e => (φ e).hash
      | none => 0 := by
  have hc : (fun e => keyOf e == j) ∘ φ = fun e => keyOf e == j := funext fun x => congrArg (· == j) (hφ x)
  unfold hOf
  rw [List.find?_map, hc]
  cases es.find? (fun e => keyOf e == j) <;> rfl

theorem hOf_toggleList {es : List Edge} {k : EK} (δ : Nat) (hk : k ∈ keysOf es) :
    hOf (toggleList es k δ) = toggle (hOf es) k δ := by
  funext j
  rw [toggleList_def, hOf_map es (by intro; rfl), toggle_apply, hOf]
  cases hf : es.find? (fun e => keyOf e == j) with
  | some e =>
    have hej : keyOf e = j := beq_iff_eq.mp (List.find?_some hf :)
    rw [← hej]
  | none =>
    -- no edge has the key `j`, and some edge has the key `k`
    obtain ⟨e, he, hek⟩ := List.mem_map.mp hk
    have hjk : j ≠ k := fun h => List.find?_eq_none.mp hf e he (beq_iff_eq.mpr (hek.trans h.symm))
    rw [ite0_neg hjk]
    rfl

theorem parentsK_eq {g : G} {es : List Edge} (hg : g.keys = keysOf es) (n : Bytes) :
    parentsK g n = (es.filter (fun e => e.down == n)).map keyOf := by
  rw [parentsK, hg, keysOf, List.filter_map]
  rfl

theorem bump_bridge (g : G) (δ fuel : Nat) {es : List Edge} (n : Bytes) (hk : g.keys = keysOf es) :
    hOf (bump fuel es n δ) = bumpF g fuel n δ (hOf es) := by
  induction fuel generalizing es n with
  | zero => rfl
  | succ fuel ih =>
    rw [bump_succ, bumpF, parentsK_eq hk, List.foldl_map]
    refine (List.foldl_rel (r := fun acc h => keysOf acc = keysOf es ∧ hOf acc = h) ⟨rfl, rfl⟩ ?_).2
    intro e he acc h ⟨h1, h2⟩
    have hea : keyOf e ∈ keysOf acc := by rw [h1]; exact List.mem_map_of_mem (List.mem_filter.mp he).1
    have hkt := (keysOf_toggleList acc (keyOf e) δ).trans h1
    refine ⟨(keysOf_bump ..).trans hkt, ?_⟩
    rw [ih _ (hk.trans hkt.symm), hOf_toggleList δ hea, h2]
    rfl

theorem map_congr_mem {α β : Type} (f g : α → β) (l : List α) (h : ∀ x ∈ l, f x = g x) : l.map f = l.map g :=
  List.map_congr_left h

end Siot.Store
