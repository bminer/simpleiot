import Siot.Basic
/- What otherwise unrelated lemma files share. -/
namespace Siot

/-- Instance search reaches this only after a long detour, and makes it again in every declaration
that turns `a == b` on `Bytes` into `a = b`. Found once here, it is a look-up everywhere else. -/
instance : LawfulBEq UInt8 := inferInstance

theorem eq_of_xor_eq_zero {a b : Nat} (h : a ^^^ b = 0) : a = b := by
  rw [← Nat.xor_zero a, ← h, ← Nat.xor_assoc, Nat.xor_self, Nat.zero_xor]

theorem find?_congr_of_mem {α} {l : List α} {p q : α → Bool} (h : ∀ a ∈ l, p a = q a) : l.find? p = l.find? q := by
  rw [← List.head?_filter, List.filter_congr h, List.head?_filter]

theorem any_congr_of_mem {α} {l : List α} {p q : α → Bool} (h : ∀ a ∈ l, p a = q a) : l.any p = l.any q := by
  rw [← List.isSome_find?, ← List.isSome_find?, find?_congr_of_mem h]

theorem flatMap_single {α β} {l : List α} {g : α → List β} {c : α} (hn : l.Nodup) (hc : c ∈ l)
    (h : ∀ a ∈ l, a ≠ c → g a = []) : l.flatMap g = g c := by
  induction l with
  | nil => cases hc
  | cons a l ih =>
    rw [List.nodup_cons] at hn
    rw [List.flatMap_cons]
    rcases List.mem_cons.mp hc with rfl | hc
    · rw [List.flatMap_eq_nil_iff.mpr fun b hb => h b (List.mem_cons_of_mem _ hb) fun e => hn.1 (e ▸ hb), List.append_nil]
    · rw [h a (List.mem_cons_self ..) fun e => hn.1 (e ▸ hc), ih hn.2 hc fun b hb => h b (List.mem_cons_of_mem _ hb)]
      rfl

theorem flatMap_congr_mem {α β} {l : List α} {f g : α → List β} (h : ∀ a ∈ l, f a = g a) : l.flatMap f = l.flatMap g := by
  rw [List.flatMap_def, List.flatMap_def, List.map_congr_left h]

theorem flatMap_congr_map {α β γ δ : Type} {g1 : α → γ} {g2 : β → γ} {F : α → List δ} {G : β → List δ} {l1 : List α} {l2 : List β}
    (h : l1.map g1 = l2.map g2) (hfg : ∀ a ∈ l1, ∀ b ∈ l2, g1 a = g2 b → F a = G b) : l1.flatMap F = l2.flatMap G := by
  induction l1 generalizing l2 with
  | nil =>
    cases l2 with
    | nil => rfl
    | cons _ _ => cases h
  | cons a l1 ih =>
    cases l2 with
    | nil => cases h
    | cons b l2 =>
      rw [List.flatMap_cons, List.flatMap_cons, hfg a (List.mem_cons_self ..) b (List.mem_cons_self ..) (List.cons.inj h).1,
        ih (List.cons.inj h).2 fun a' ha b' hb => hfg a' (List.mem_cons_of_mem _ ha) b' (List.mem_cons_of_mem _ hb)]

theorem pairwise_inj {α β} (f : α → β) {l : List α} (h : l.Pairwise (fun a b => f a ≠ f b)) {a b : α} (ha : a ∈ l) (hb : b ∈ l)
    (hd : f a = f b) : a = b :=
  List.Pairwise.forall_of_forall_of_flip (R := fun a b => f a = f b → a = b) (fun _ _ _ => rfl)
    (h.imp fun hne he => absurd he hne) (h.imp fun hne he => absurd he.symm hne) ha hb hd

theorem ite_err_eq_ok {α : Type} {c : Prop} [Decidable c] {e : String} {x : Res α} {y : α} :
    (if c then .err e else x) = .ok y ↔ ¬c ∧ x = .ok y := by
  by_cases h : c
  · rw [if_pos h]; exact ⟨nofun, fun h' => absurd h h'.1⟩
  · rw [if_neg h]; exact (and_iff_right h).symm

theorem ite_err_refused {α : Type} {c : Prop} [Decidable c] {e : String} {x : Res α} (h : ∃ e', x = .err e') :
    ∃ e', (if c then .err e else x) = .err e' := by
  split
  · exact ⟨e, rfl⟩
  · exact h

theorem flatMap_const_replicate {α β} (l : List α) (j : Nat) (t : β) :
    l.flatMap (fun _ => List.replicate j t) = List.replicate (l.length * j) t := by
  rw [List.flatMap_def, List.map_const', List.flatten_replicate_replicate]

end Siot
