import Siot.Model.Config
/-
`strconv.Atoi (strconv.Itoa n) = n`: `itoaAux` puts the digits of `n` in front of its accumulator, `digitsVal` reads them behind
what it holds already (`shiftDec`), and read behind `0` they are `n`.
-/
namespace Siot.Config
open Siot

theorem itoaAux_append (fuel n : Nat) (acc : Bytes) : itoaAux fuel n acc = itoaAux fuel n [] ++ acc := by
  induction fuel generalizing n acc with
  | zero => rfl
  | succ fuel ih =>
    simp only [itoaAux]
    split
    · rfl
    · rw [ih _ (_ :: acc), ih _ [_], List.append_assoc]; rfl

theorem digitsVal_append (l₁ l₂ : Bytes) (a : Nat) : digitsVal (l₁ ++ l₂) a = (digitsVal l₁ a).bind (digitsVal l₂) := by
  induction l₁ generalizing a with
  | nil => rfl
  | cons c l₁ ih =>
    simp only [List.cons_append, digitsVal]
    split
    · exact ih _
    · rfl

theorem digit_byte (d : Nat) (h : d < 10) : (UInt8.ofNat (48 + d)).toNat = 48 + d := by
  rw [UInt8.toNat_ofNat']
  exact Nat.mod_eq_of_lt (by omega)

/-- a digit in front of `cs` multiplies what is held by ten and adds it -/
theorem digitsVal_digit (d : Nat) (hd : d < 10) (cs : Bytes) (a : Nat) :
    digitsVal (UInt8.ofNat (48 + d) :: cs) a = digitsVal cs (a * 10 + d) := by
  rw [digitsVal, digit_byte d hd, if_pos (by omega), Nat.add_sub_cancel_left]

/-- the number `digitsVal` holds after reading the digits of `n` (at most `fuel + 1` of them) behind `a` -/
def shiftDec (a : Nat) : Nat → Nat → Nat
  | 0, n => a * 10 + n
  | fuel + 1, n => if n < 10 then a * 10 + n else shiftDec a fuel (n / 10) * 10 + n % 10

theorem shiftDec_of_lt (a fuel : Nat) {n : Nat} (h : n < 10) : shiftDec a fuel n = a * 10 + n := by
  cases fuel with
  | zero => rfl
  | succ => exact if_pos h

theorem shiftDec_zero (fuel n : Nat) (h : n < 10 ^ (fuel + 1)) : shiftDec 0 fuel n = n := by
  induction fuel generalizing n with
  | zero => exact Nat.zero_add n
  | succ fuel ih =>
    rw [shiftDec]
    split
    · exact Nat.zero_add n
    · rw [ih (n / 10) (Nat.div_lt_of_lt_mul (Nat.mul_comm .. ▸ h)), Nat.div_add_mod']

theorem digitsVal_itoaAux (fuel n : Nat) (acc : Bytes) (a : Nat) (h : n < 10 ^ fuel) (hf : 0 < fuel) :
    digitsVal (itoaAux fuel n acc) a = digitsVal acc (shiftDec a (fuel - 1) n) := by
  induction fuel generalizing n acc with
  | zero => cases hf
  | succ fuel ih =>
    have hd : n % 10 < 10 := Nat.mod_lt n (by decide)
    rw [itoaAux]
    split
    · next hn => rw [digitsVal_digit _ hd, Nat.mod_eq_of_lt hn, shiftDec_of_lt a _ hn]
    · next hn =>
      -- two digits or more: the fuel that is left is not zero
      obtain ⟨fuel, rfl⟩ : ∃ f, fuel = f + 1 := by
        cases fuel with
        | zero => exact absurd h hn
        | succ f => exact ⟨f, rfl⟩
      rw [ih (n / 10) _ (Nat.div_lt_of_lt_mul (Nat.mul_comm .. ▸ h)) (Nat.succ_pos _), digitsVal_digit _ hd]
      exact congrArg (digitsVal acc) (if_neg hn).symm

theorem itoa_nonempty (n : Nat) : (itoa n).isEmpty = false := by
  simp only [itoa, itoaAux]
  split
  · rfl
  · rw [itoaAux_append]; simp

theorem atoi_of_digitsVal (s : Bytes) (n : Nat) (hs : s.isEmpty = false) (h : digitsVal s 0 = some n) (hn : n ≤ 9223372036854775807) :
    atoi s = some (n : Int) := by
  cases s with
  | nil => cases hs
  | cons c cs =>
    have hc : 48 ≤ c.toNat := by
      simp only [digitsVal] at h
      split at h
      · omega
      · cases h
    unfold atoi
    split
    · next heq => cases heq; exact absurd hc (by decide)
    · next heq => cases heq; exact absurd hc (by decide)
    · simp [h, hn]

theorem atoi_itoa (n : Nat) (h : n ≤ 9223372036854775807) : atoi (itoa n) = some (n : Int) := by
  have hlt : n < 10 ^ (n + 1) := Nat.lt_of_succ_lt (Nat.lt_pow_self (by decide))
  have hval : digitsVal (itoa n) 0 = some n :=
    (digitsVal_itoaAux (n + 1) n [] 0 hlt (Nat.succ_pos n)).trans (congrArg some (shiftDec_zero n n hlt))
  exact atoi_of_digitsVal _ n (itoa_nonempty n) hval h

theorem indexOf_itoa (n : Nat) (h : n ≤ 9223372036854775807) : indexOf (itoa n) = n := by
  unfold indexOf
  rw [atoi_itoa n h]
  rfl

end Siot.Config
