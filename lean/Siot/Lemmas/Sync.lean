import Siot.Model.Sync
import Siot.Lemmas.StoreOrder
/-
The catch-up pass acts on each of the two stores only through its write requests; so whatever every write request keeps
(the store invariants, the order `StLe`) the pass keeps. On the way: what `getNodes` returns for an ordinary parent, and
`sendNodes` as `SendNode` folded over the pre-order list of the subtree (`sendList`, `sendNodesAux_eq`), stopped by the first
failure.
-/
namespace Siot.Sync
open Siot Siot.Store

theorem neOf_id (st : St) (e : Edge) : (neOf st e).id = e.down := rfl
theorem neOf_parent (st : St) (e : Edge) : (neOf st e).parent = e.up := rfl
theorem neOf_typ (st : St) (e : Edge) : (neOf st e).typ = e.typ := rfl
theorem neOf_hash (st : St) (e : Edge) : (neOf st e).hash = e.hash := rfl
theorem neOf_pts (st : St) (e : Edge) : (neOf st e).pts = ptsOf st e.down := rfl
theorem neOf_epts (st : St) (e : Edge) : (neOf st e).epts = eptsOf st e.up e.down := rfl

theorem getNodes_pair (st : St) (p id : Bytes) (hp1 : p ≠ rootS) (hp2 : p ≠ allS) (hi : id ≠ allS) :
    getNodes st p id true = (st.edges.filter (fun e => e.up == p && e.down == id)).map (neOf st) := by
  unfold getNodes
  simp only [hp1, hp2, hi, if_false, Bool.true_or]
  exact List.filter_eq_self.mpr (fun _ _ => rfl)

theorem getNodes_kids (st : St) (p : Bytes) (hp1 : p ≠ rootS) (hp2 : p ≠ allS) :
    getNodes st p allS true = (st.edges.filter (fun e => e.up == p)).map (neOf st) := by
  unfold getNodes
  simp only [hp1, hp2, if_false, if_true, Bool.true_or]
  exact List.filter_eq_self.mpr (fun _ _ => rfl)

/-- the edges of `src` that are not deleted: the ones `getNodes(…, includeDel = false)` lists -/
def liveEdges (src : St) : List Edge := src.edges.filter (fun e => !isTomb (eptsOf src e.up e.down))

theorem liveEdges_mem {src : St} {c : Edge} (h : c ∈ liveEdges src) : c ∈ src.edges := (List.mem_filter.mp h).1

theorem getNodes_live (src : St) (p : Bytes) (hp1 : p ≠ rootS) (hp2 : p ≠ allS) :
    getNodes src p allS false = ((liveEdges src).filter (fun e => e.up == p)).map (neOf src) := by
  unfold getNodes liveEdges
  simp only [hp1, hp2, if_false, if_true, Bool.false_or]
  rw [List.filter_map, List.filter_filter, List.filter_filter]
  congr 1
  apply List.filter_congr
  intro e _
  simp only [Function.comp, neOf, Bool.and_comm]

/-- `sendNodesLocal` lists the children in the LOCAL store: below a node that store has no edge out of, none -/
theorem getNodes_no_kids (src : St) (p : Bytes) (hp1 : p ≠ rootS) (hp2 : p ≠ allS) (h : ∀ e ∈ src.edges, e.up ≠ p) :
    getNodes src p allS false = [] := by
  rw [getNodes_live src p hp1 hp2, List.filter_eq_nil_iff.mpr fun e he => by simpa using h e (liveEdges_mem he)]
  rfl

theorem tryNP_eq (st : St) (id : Bytes) (pts : List Point) : tryNP st id pts = (Store.step st (.np id pts)).1 := by
  simp only [tryNP, Store.step]
  cases nodePoints st id pts <;> rfl

theorem tryEP_eq (st : St) (id parent : Bytes) (pts : List Point) : tryEP st id parent pts = (Store.step st (.ep id parent pts)).1 := by
  simp only [tryEP, Store.step]
  cases edgePoints st id parent pts <;> rfl

/-- `s'` is reached from `s` by write requests, accepted or refused -/
inductive Writes (s : St) : St → Prop
  | refl : Writes s s
  | step {s' : St} (op : WOp) : Writes s s' → Writes s (Store.step s' op).1

theorem Writes.trans {a b c : St} (h1 : Writes a b) (h2 : Writes b c) : Writes a c := by
  induction h2 with
  | refl => exact h1
  | step op _ ih => exact ih.step op

/-- what every write request keeps holds after any number of them (`run_induct` for `Writes`) -/
theorem Writes.induct {P : St → Prop} (hstep : ∀ st op, P st → P (Store.step st op).1) {s s' : St} (h : Writes s s') (hs : P s) :
    P s' := by
  induction h with
  | refl => exact hs
  | step op _ ih => exact hstep _ op ih

theorem Writes.fwd {s0 s s' : St} (h : Writes s s') (hf : Fwd s0 s) : Fwd s0 s' :=
  h.induct (fun _ op h => h.step op) hf

theorem Writes.np {s s' s'' : St} {id : Bytes} {pts : List Point} (h : Writes s s') (hs : nodePoints s' id pts = .ok s'') : Writes s s'' :=
  step_np_fst hs ▸ h.step _

theorem Writes.ep {s s' s'' : St} {id parent : Bytes} {pts : List Point} (h : Writes s s') (hs : edgePoints s' id parent pts = .ok s'') :
    Writes s s'' :=
  step_ep_fst hs ▸ h.step _

theorem Writes.tryNP {s s' : St} (h : Writes s s') (id : Bytes) (pts : List Point) : Writes s (tryNP s' id pts) :=
  tryNP_eq s' id pts ▸ h.step _

theorem Writes.tryEP {s s' : St} (h : Writes s s') (id parent : Bytes) (pts : List Point) : Writes s (tryEP s' id parent pts) :=
  tryEP_eq s' id parent pts ▸ h.step _

theorem sendNodeState_writes (st : St) (n : NE) (now : Int) : Writes st (sendNodeState st n now) := by
  unfold sendNodeState sendNode
  by_cases hb : n.id = [] ∨ n.parent = [] ∨ n.parent = noneS
  · simp only [hb, if_true]
    exact .refl
  · simp only [hb, if_false]
    cases h1 : nodePoints st n.id n.pts with
    | ok st1 =>
      dsimp only
      cases h2 : edgePoints st1 n.id n.parent _ with
      | ok st2 => exact (Writes.refl.np h1).ep h2
      | err e => exact Writes.refl.np h1
      | panic e => exact Writes.refl.np h1
    | err e => exact .refl
    | panic e => exact .refl

theorem sendNode_some {st st' : St} {n : NE} {now : Int} (h : sendNode st n now = some st') : sendNodeState st n now = st' := by
  unfold sendNodeState
  rw [h]

/-- the records `sendNodes` sends, in this order: the node, then what is sent for each child the local store lists as not deleted -/
def sendList (src : St) : Nat → NE → List NE
  | 0, _ => []
  | fuel + 1, n => n :: (getNodes src n.id allS false).flatMap (sendList src fuel)

/-- one `SendNode` of the sequence; nothing more is sent once one has failed -/
def sendOne (wall : Int → Int) (acc : (St × Int) × Bool) (n : NE) : (St × Int) × Bool :=
  if acc.2 then ((sendNodeState acc.1.1 n (wall acc.1.2), acc.1.2 + 1), (sendNode acc.1.1 n (wall acc.1.2)).isSome) else acc

theorem foldl_sendOne_false (wall : Int → Int) (a : St × Int) (l : List NE) : l.foldl (sendOne wall) (a, false) = (a, false) := by
  induction l with
  | nil => rfl
  | cons _ l ih => exact ih

theorem sendOne_some {wall : Int → Int} {st st1 : St} {clk : Int} {n : NE} (h : sendNode st n (wall clk) = some st1) :
    sendOne wall ((st, clk), true) n = ((st1, clk + 1), true) := by
  simp only [sendOne, if_true, h, sendNode_some h]
  rfl

theorem sendNodesAux_eq (wall : Int → Int) (src : St) : ∀ (fuel : Nat) (dst : St × Int) (n : NE),
    sendNodesAux wall src fuel dst n = (sendList src fuel n).foldl (sendOne wall) (dst, true) := by
  intro fuel
  induction fuel with
  | zero => exact fun _ _ => rfl
  | succ fuel ih =>
    intro ⟨st, clk⟩ n
    rw [sendNodesAux, sendList, List.foldl_cons]
    cases hs : sendNode st n (wall clk) with
    | none =>
      have h1 : sendOne wall ((st, clk), true) n = ((sendNodeState st n (wall clk), clk + 1), false) := by
        simp only [sendOne, if_true, hs]; rfl
      rw [h1, foldl_sendOne_false]
    | some dst1 =>
      rw [sendOne_some hs, List.foldl_flatMap]
      dsimp only
      congr 1
      funext acc c
      obtain ⟨a, b⟩ := acc
      cases b
      · exact (foldl_sendOne_false wall a _).symm
      · exact ih a c

theorem sendNodesAux_writes (wall : Int → Int) (src : St) (fuel : Nat) (dst : St × Int) (n : NE) :
    Writes dst.1 (sendNodesAux wall src fuel dst n).1.1 := by
  rw [sendNodesAux_eq]
  refine List.foldlRecOn (motive := fun (acc : (St × Int) × Bool) => Writes dst.1 acc.1.1) _ _ .refl fun acc h x _ => h.trans ?_
  unfold sendOne
  split
  · exact sendNodeState_writes ..
  · exact .refl

def PWrites (s s' : Pair) : Prop := Writes s.a s'.a ∧ Writes s.b s'.b

theorem PWrites.refl (s : Pair) : PWrites s s := ⟨.refl, .refl⟩

theorem PWrites.trans {a b c : Pair} (h1 : PWrites a b) (h2 : PWrites b c) : PWrites a c := ⟨h1.1.trans h2.1, h1.2.trans h2.2⟩

theorem toRemote_writes (wall : Int → Int) (s : Pair) (n : NE) : PWrites s (toRemote wall s n) :=
  ⟨.refl, sendNodesAux_writes wall s.a _ (s.b, s.clk) n⟩

theorem toLocal_writes (wall : Int → Int) (s : Pair) (n : NE) : PWrites s (toLocal wall s n) :=
  ⟨sendNodesAux_writes wall s.a _ (s.a, s.clk) n, .refl⟩

theorem syncExchange_writes (s : Pair) (nodeLocal nodeUp : NE) : PWrites s (syncExchange s nodeLocal nodeUp) := by
  unfold syncExchange
  -- either store after the exchange: a fold of `tryEP` over a fold of `tryNP`
  refine ⟨?_, ?_⟩ <;>
    exact List.foldlRecOn _ _ (List.foldlRecOn _ _ .refl fun _ h p _ => h.tryNP _ [p]) fun _ h p _ => h.tryEP _ _ [p]

theorem syncChildren_writes (wall : Int → Int) (rec : Pair → Bytes → Bytes → Pair) (hrec : ∀ s a b, PWrites s (rec s a b))
    (s : Pair) (nodeLocal nodeUp : NE) : PWrites s (syncChildren wall rec s nodeLocal nodeUp) := by
  unfold syncChildren
  refine List.foldlRecOn _ _ (List.foldlRecOn _ _ (PWrites.refl s) fun s' h child _ => h.trans ?_) fun s' h upChild _ => h.trans ?_
  · split
    · split
      · exact hrec s' _ _
      · exact .refl s'
    · exact toRemote_writes wall s' child
  · split
    · exact .refl s'
    · exact toLocal_writes wall s' upChild

theorem syncNode_writes (wall : Int → Int) : ∀ (fuel : Nat) (s : Pair) (parent id : Bytes), PWrites s (syncNode wall fuel s parent id) := by
  intro fuel
  induction fuel with
  | zero => exact fun s _ _ => .refl s
  | succ fuel ih =>
    intro s parent id
    rw [syncNode]
    cases getNodes s.a (if parent = rootS then allS else parent) id true with
    | nil => exact .refl s
    | cons nodeLocal _ =>
      cases getNodes s.b (if parent = rootS then allS else parent) id true with
      | nil => exact toRemote_writes wall s _
      | cons nodeUp rest =>
        dsimp only
        split
        · exact ⟨.refl, Writes.refl.tryEP _ _ _⟩
        · split
          · exact .refl s
          · exact (syncExchange_writes s _ _).trans (syncChildren_writes wall _ ih _ _ _)

def PFwd (p0 p : Pair) : Prop := Fwd p0.a p.a ∧ Fwd p0.b p.b

theorem PFwd.refl (s : Pair) (ha : Inv s.a) (hb : Inv s.b) : PFwd s s := ⟨⟨ha, StLe.refl _⟩, ⟨hb, StLe.refl _⟩⟩

theorem PFwd.trans {a b c : Pair} (h1 : PFwd a b) (h2 : PFwd b c) : PFwd a c :=
  ⟨⟨h2.1.1, h1.1.2.trans h2.1.2⟩, ⟨h2.2.1, h1.2.2.trans h2.2.2⟩⟩

theorem PWrites.fwd {p0 s s' : Pair} (h : PWrites s s') (hf : PFwd p0 s) : PFwd p0 s' := ⟨h.1.fwd hf.1, h.2.fwd hf.2⟩

end Siot.Sync
