import Siot.Lemmas.StoreOps
import Siot.Gen.Store
/-
C03 — Stored hashes always equal the Merkle hash of current content.
Model: Siot/Model/Store.lean (nodePoints, edgePoints, updateHash as `bump`), Siot/Model/Crc32.lean.
-/
namespace Siot.Store
open Siot

/-- Tie A: the CRC field order of Point.CRC, the structure of CalcHash, and the literals of the hash
update as they are in the sources now. -/
theorem gen_store_pinned :
    Gen.pointCrcWrites = ["d", "p.Type", "p.Key", "p.Text", "d"] ∧
    Gen.pointCrcPuts = ["p.Time.UnixNano", "math.Float64bits(p.Value)"] ∧
    Gen.calcHashRanges = ["n.Points", "n.EdgePoints", "children"] ∧
    Gen.updateHashHelperQuery = "SELECT * FROM edges WHERE down=?" := by
  and_intros <;> rfl

theorem edgeWrite_inv (st : St) (u d : Bytes) (batch : List Point) (hinv : Inv st)
    (hk0 : (u, d) ∈ keysOf st.edges) : Inv (edgeWrite st u d batch) :=
  hinv.edgeWrite hk0 batch

theorem edgeInsert_inv (st : St) (u d typ : Bytes) (batch : List Point) (hinv : Inv st)
    (hk0 : (u, d) ∉ keysOf st.edges) (hne : d ≠ u)
    (hchk : (ancestors (2 ^ st.edges.length) st.edges u).contains d = false) : Inv (edgeInsert st u d typ batch) :=
  hinv.edgeInsert hk0 hchk typ batch

theorem edgePointsCore_inv (st st' : St) (node u : Bytes) (pts : List Point) (hinv : Inv st)
    (h : edgePointsCore st node u pts = .ok st') : Inv st' := by
  rcases edgePointsCore_ok_iff.mp h with ⟨hk, rfl⟩ | ⟨hk, _, hchk, rfl⟩
  · exact hinv.edgeWrite hk _
  · exact hinv.edgeInsert hk hchk _ _

theorem edgePoints_inv (st st' : St) (node parent : Bytes) (pts : List Point) (hinv : Inv st)
    (h : edgePoints st node parent pts = .ok st') : Inv st' :=
  (edgePoints_ok_iff.mp h).inv hinv

/-- **C03 step.** Every accepted write — node points, edge points on an existing edge, a new edge
over an empty or populated subtree, mirrors, tombstones, stale and repeated writes — and every
refused one keeps: unique edges, acyclicity, one row per point identity, and every stored hash equal
to the XOR of the checksums of the node's points, the edge's points and the child edges' hashes. -/
theorem c03_step_preserves (st : St) (op : WOp) (hinv : Inv st) : Inv (step st op).1 := hinv.step op

/-- **C03 (main): every reachable state.** From the empty store, after ANY sequence of write requests,
every edge's stored hash is the Merkle hash of the current content. -/
theorem c03_reachable (ops : List WOp) : Inv (run {} ops) := Inv.empty.run ops

/-- the executable verification (`verifyNodeHashes`, and the driver's oracle) finds nothing to repair
    exactly when the invariant holds -/
theorem c03_verify_clean (st : St) (hinv : Inv st) : hashInv st = true := hinv.verify_clean

/-- a point's checksum depends on exactly its time, type, key, text and value -/
theorem c03_crc_depends_exactly (p q : Point)
    (h : p.time = q.time ∧ p.type = q.type ∧ p.key = q.key ∧ p.text = q.text ∧ p.value = q.value) :
    pcrc p = pcrc q := by
  obtain ⟨h1, h2, h3, h4, h5⟩ := h
  unfold pcrc
  rw [h1, h2, h3, h4, h5]

/-- non-vacuity: a reachable store with a chain R → a → b, points on both nodes, a refused write in between, whose
    stored hashes are non-zero and verify -/
example :
    let ops : List WOp := [
      .ep [97] [] [{ type := tombstoneT, time := 3 }, { type := nodeTypeT, text := [100], time := 3 }],
      .ep [98] [97] [{ type := tombstoneT, time := 4 }, { type := nodeTypeT, text := [100], time := 4 }],
      .np [98] [{ type := [1], time := 5, value := 4607182418800017408 }],
      .ep [97] [98] [{ type := tombstoneT, time := 6 }, { type := nodeTypeT, text := [100], time := 6 }],   -- a cycle: refused
      .np [97] [{ type := [1], key := [49], time := 7, value := 4611686018427387904 }]]
    (run {} ops).edges.length = 2 ∧ (run {} ops).nodePts.length = 2 ∧
      (run {} ops).edges.all (fun e => e.hash != 0) = true ∧ hashInv (run {} ops) = true := by
  decide +kernel

end Siot.Store
