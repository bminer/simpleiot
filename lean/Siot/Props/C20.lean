import Siot.Model.Conc
import Siot.Props.C04
import Siot.Props.C01
import Siot.Gen.StoreRun
/-
C20 — Concurrent use is safe (the part a theorem can carry).
A concurrent run is represented by its commit order (see Siot/Model/Conc.lean). The theorems hold for EVERY
commit order, so no assumption is made on how the scheduler interleaves the writers.
Data races, deadlock, unanswered requests and termination are run-time matters: they are decided by the
load harness (history checks, `go build -race`, stop and re-open), not by these theorems — partial.
-/
namespace Siot.Conc
open Siot Siot.Store Siot.Sync Siot.Crash

/-- **C20 (reads never go back).** Along any commit order the store only moves forward: what a read saw
after `i` commits is still there after `j ≥ i` commits, or superseded by newer-or-equal points. Two
successive reads therefore never show an older time stamp for any point. -/
theorem c20_reads_monotone (st0 : St) (h0 : Inv st0) (commits : List WOp) (i j : Nat) (hij : i ≤ j) :
    StLe (stateAt st0 commits i) (stateAt st0 commits j) :=
  run_take_le h0 commits hij

/-- **C20 (an acknowledged write is visible to every later read).** If the batch at position `i` of the
commit order was an accepted node-point batch, every read that sees at least `i + 1` commits — in particular
every read invoked after the acknowledgement — shows, for each point of the batch, a row of its identity that
is at least as new. -/
theorem c20_acked_write_visible (st0 : St) (h0 : Inv st0) (commits : List WOp) (i j : Nat) (hij : i + 1 ≤ j)
    (id : Bytes) (pts : List Point) (hop : commits[i]? = some (.np id pts))
    (hacc : ∃ st', nodePoints (stateAt st0 commits i) id pts = .ok st') (p : Point) (hp : p ∈ pts) :
    ∃ q ∈ ptsOf (stateAt st0 commits j) id, sameId q (normPoint p) = true ∧ (normPoint p).time ≤ q.time := by
  obtain ⟨st', hst'⟩ := hacc
  have hnext : stateAt st0 commits (i + 1) = st' := by
    unfold stateAt at hst' ⊢
    rw [List.take_add_one, run_append, hop]
    simp only [Option.toList, run, step, hst']
  obtain ⟨q, hq, hs, ht⟩ := c04_batch_present _ st' (run_inv _ st0 h0) id pts hst' p hp
  obtain ⟨q2, hq2, hs2, ht2⟩ := (hnext ▸ c20_reads_monotone st0 h0 commits (i + 1) j hij).nodes id q hq
  exact ⟨q2, hq2, sameId_trans hs2 hs, Int.le_trans ht ht2⟩

/-- **C20 (the content is that of a serial order, with consistent hashes).** After any commit order the
store satisfies the store invariants (C03), and the rows of a node are the same whatever the order in which
the same batches were committed (C01: last write wins makes the order irrelevant). -/
theorem c20_final_serial_and_consistent (st0 : St) (h0 : Inv st0) (commits : List WOp) :
    Inv (run st0 commits) ∧ hashInv (run st0 commits) = true :=
  ⟨run_inv _ st0 h0, (run_inv _ st0 h0).verify_clean⟩

theorem c20_commit_order_irrelevant (bs bs' : List (List Point))
    (hsame : ∀ p, p ∈ delivered bs ↔ p ∈ delivered bs') (hadm : Admissible (delivered bs)) :
    ∀ p, p ∈ rowsAfter [] bs ↔ p ∈ rowsAfter [] bs' :=
  c01_order_batching_irrelevant bs bs' hsame hadm

/-- tie A: the table of request handlers `Store.Run` subscribes, each under its own key of the subscription map, and the
one loop over that map that unsubscribes them before the database is closed (two handlers under one key would leave
one of them subscribed after the stop). -/
theorem gen_store_run_pinned :
    Gen.storeRunSubs = ["\"nodePoints\" <- \"p.*\", st.handleNodePoints", "\"edgePoints\" <- \"p.*.*\", st.handleEdgePoints",
      "\"nodes\" <- \"nodes.*.*\", st.handleNodesRequest", "\"auth.user\" <- \"auth.user\", st.handleAuthUser",
      "\"auth.getNatsURI\" <- \"auth.getNatsURI\", st.handleAuthGetNatsURI",
      "\"admin.storeVerify\" <- \"admin.storeVerify\", st.handleStoreVerify", "\"admin.storeMaint\" <- \"admin.storeMaint\", st.handleStoreMaint"] ∧
    Gen.storeRunRanges = ["st.subscriptions"] ∧ Gen.storeRunCloses.length = 2 ∧ Gen.storeRunKeysDistinct = true :=
  ⟨rfl, rfl, rfl, rfl⟩

/-- non-vacuity: a commit order of four writes (one refused: NaN); a write acknowledged at position 1 is visible at every later
    position, and the states along the order differ -/
example :
    let commits : List WOp := [
      .ep [97] [] [{ type := tombstoneT, time := 3 }, { type := nodeTypeT, text := [100], time := 3 }],
      .np [97] [{ type := [1], time := 5, value := 4607182418800017408 }],
      .np [97] [{ type := [1], time := 4, value := 9221120237041090560 }],
      .np [97] [{ type := [1], time := 7, value := 4611686018427387904 }]]
    Inv ({} : St) ∧ commits[1]? = some (.np [97] [{ type := [1], time := 5, value := 4607182418800017408 }]) ∧
      (∃ st', nodePoints (stateAt {} commits 1) [97] [{ type := [1], time := 5, value := 4607182418800017408 }] = .ok st') ∧
      stateAt {} commits 2 = stateAt {} commits 3 ∧ stateAt {} commits 3 ≠ stateAt {} commits 4 := by
  intro commits
  exact ⟨Inv.empty, rfl, ⟨_, rfl⟩, rfl, by decide +kernel⟩

end Siot.Conc
