import Siot.Lemmas.ConfigField
import Siot.Lemmas.ConfigDiff
import Siot.Gen.Config
/-
C10 — Typed configuration survives Encode/Decode (and Diff/Merge).
Model: Siot/Model/Config.lean.
-/
namespace Siot.Config
open Siot

/-- Tie A: the two limits of data/encode.go as they are now -/
theorem gen_limits_pinned : Gen.cfgMaxSafeInteger = maxSafeInteger ∧ (Gen.cfgMaxStructureSize : Int) = (maxStructureSize : Nat) :=
  ⟨rfl, rfl⟩

/-- no two fields of the type share tag kind and point type -/
def TagsDistinct (T : Ty) : Prop := (T.map (fun f => (f.edge, f.ptype))).Nodup

/-- every field value lies in the supported universe (`FOk`) -/
def ValOk : Ty → List FVal → Prop
  | [], [] => True
  | f :: fs, x :: xs => FOk f.ty x ∧ ValOk fs xs
  | _, _ => False

/-- the per-field point lists line up with the fields, carry the field's type, and decode back -/
def Aligned (N : Num) : Ty → List FVal → List (List Point) → Prop
  | [], [], [] => True
  | f :: fs, x :: xs, l :: ls => (∀ p ∈ l, p.type = f.ptype) ∧ FieldRT N f.ty x l ∧ Aligned N fs xs ls
  | _, _, _ => False

theorem encodeFields_ok (N : Num) (hN : NumLaws N) : ∀ (T : Ty) (xs : List FVal), ValOk T xs →
    ∃ ls, encodeFields N T xs = .ok ls ∧ Aligned N T xs ls := by
  intro T xs h
  fun_induction ValOk T xs
  case case1 => exact ⟨[], rfl, trivial⟩
  case case2 f fs x xs ih =>
    obtain ⟨l, hl, ht, hrt⟩ := field_roundtrip (pt := f.ptype) hN f.ty x h.1
    obtain ⟨ls, hls, hal⟩ := ih h.2
    exact ⟨l :: ls, by simp only [encodeFields, hl, hls], ht, hrt, hal⟩
  case case3 => exact h.elim

/-- the concatenation of the lists of the fields tagged `(e, pt)` -/
def pickTag (e : Bool) (pt : Bytes) : Ty → List (List Point) → List Point
  | f :: fs, l :: ls => if f.edge = e ∧ f.ptype = pt then l ++ pickTag e pt fs ls else pickTag e pt fs ls
  | _, _ => []

theorem filter_own (l : List Point) (pt pt' : Bytes) (h : ∀ p ∈ l, p.type = pt') :
    l.filter (fun p => p.type == pt) = if pt' = pt then l else [] := by
  by_cases hp : pt' = pt
  · rw [if_pos hp, List.filter_eq_self]
    exact fun p hp' => beq_iff_eq.mpr ((h p hp').trans hp)
  · rw [if_neg hp, List.filter_eq_nil_iff]
    exact fun p hp' hc => hp ((h p hp').symm.trans (beq_iff_eq.mp hc))

theorem collect_filter (N : Num) (e : Bool) (pt : Bytes) : ∀ (T : Ty) (xs : List FVal) (ls : List (List Point)),
    Aligned N T xs ls → (collect e T ls).filter (fun p => p.type == pt) = pickTag e pt T ls := by
  intro T xs ls h
  fun_induction Aligned N T xs ls
  case case1 => rfl
  case case2 f fs x xs l ls ih =>
    rw [collect, pickTag]
    by_cases he : f.edge = e
    · rw [if_pos he, List.filter_append, ih h.2.2, filter_own l pt f.ptype h.1]
      by_cases hp : f.ptype = pt
      · rw [if_pos hp, if_pos ⟨he, hp⟩]
      · rw [if_neg hp, if_neg fun h => hp h.2]; rfl
    · rw [if_neg he, if_neg fun h => he h.1, ih h.2.2]
  case case3 => exact h.elim

theorem pickTag_none (e : Bool) (pt : Bytes) : ∀ (T : Ty) (ls : List (List Point)),
    (e, pt) ∉ T.map (fun f => (f.edge, f.ptype)) → pickTag e pt T ls = [] := by
  intro T ls h
  induction T generalizing ls with
  | nil => cases ls <;> rfl
  | cons f fs ih =>
    cases ls with
    | nil => rfl
    | cons l ls =>
      rw [List.map_cons, List.mem_cons, not_or] at h
      rw [pickTag, if_neg fun hc => h.1 (by rw [← hc.1, ← hc.2]), ih ls h.2]

/-- Decoding the fields of `T` from the encoded points of a value, starting from the zero value. The type stands in two roles:
    `T0` (with `xs0`, `ls0`) is the whole type, whose points the node `ne` carries and which stays fixed; `T` (with `xs`, `ls`) is the
    suffix of it the induction has reached — at the call both are the same. `hpick` ties them: the points of the whole node with a
    field's tag are that field's own list. -/
theorem decodeFields_roundtrip (N : Num) (ne : NodeEdge) (T0 : Ty) (xs0 : List FVal) (ls0 : List (List Point))
    (hal0 : Aligned N T0 xs0 ls0)
    (hpts : ne.points = collect false T0 ls0) (hepts : ne.edgePoints = collect true T0 ls0) :
    ∀ (T : Ty) (xs : List FVal) (ls : List (List Point)), Aligned N T xs ls →
      (∀ f l, (f, l) ∈ T.zip ls → pickTag f.edge f.ptype T0 ls0 = l) →
      decodeFields N ne T (T.map (fun f => zeroF f.ty)) = (xs, false, none) := by
  intro T xs ls h hpick
  fun_induction Aligned N T xs ls
  case case1 => rfl
  case case2 f fs x xs l ls ih =>
    have hf : (if f.edge then ne.edgePoints else ne.points).filter (fun p => p.type == f.ptype) = l := by
      rw [← hpick f l List.mem_cons_self]
      cases he : f.edge
      · exact hpts ▸ collect_filter N false f.ptype T0 xs0 ls0 hal0
      · exact hepts ▸ collect_filter N true f.ptype T0 xs0 ls0 hal0
    rw [List.map_cons, decodeFields_cons_ok ne f fs _ x _ l hf (fieldRT_iff.mp h.2.1),
      ih h.2.2 fun g m hm => hpick g m (List.mem_cons_of_mem _ hm)]
  case case3 => exact h.elim

/-- with distinct tags, picking a field's tag gives back the list at its place -/
theorem pickTag_zip {T : Ty} {ls : List (List Point)} (hnd : TagsDistinct T) {f : Field} {l : List Point}
    (h : (f, l) ∈ T.zip ls) : pickTag f.edge f.ptype T ls = l := by
  induction T generalizing ls with
  | nil => cases h
  | cons g gs ih =>
    cases ls with
    | nil => cases h
    | cons m ms =>
      rw [TagsDistinct, List.map_cons, List.nodup_cons] at hnd
      rw [pickTag]
      rcases List.mem_cons.mp h with h | h
      · cases h
        rw [if_pos ⟨rfl, rfl⟩, pickTag_none f.edge f.ptype gs ms hnd.1, List.append_nil]
      · rw [if_neg fun hc => hnd.1 (by
          rw [hc.1, hc.2]; exact List.mem_map_of_mem (f := fun f : Field => (f.edge, f.ptype)) (List.of_mem_zip h).1)]
        exact ih hnd.2 h

theorem pickTag_self : ∀ (T : Ty) (ls : List (List Point)), T.length = ls.length → TagsDistinct T →
    ∀ f l, (f, l) ∈ T.zip ls → pickTag f.edge f.ptype T ls = l :=
  fun _ _ _ hnd _ _ h => pickTag_zip hnd h

theorem Aligned.length_eq {N : Num} {T : Ty} {xs : List FVal} {ls : List (List Point)} (h : Aligned N T xs ls) :
    T.length = ls.length ∧ T.length = xs.length := by
  fun_induction Aligned N T xs ls
  case case1 => exact ⟨rfl, rfl⟩
  case case2 ih =>
    obtain ⟨h1, h2⟩ := ih h.2.2
    exact ⟨congrArg (· + 1) h1, congrArg (· + 1) h2⟩
  case case3 => exact h.elim

/-- **C10 (main): Decode ∘ Encode = id.** For every supported configuration type `T` whose fields
carry distinct tags, and every value of `T` in the supported universe (sizes ≤ 1000, integers within
±(2^53−1), non-empty unique map keys, non-empty flat structs behind pointers): `Encode` succeeds, and
decoding the produced node into the zero value of `T` reports no error and yields exactly the value —
every scalar, pointer (nil or not), slice and array element, map entry and struct field, edge fields
included, together with node id and parent. -/
theorem c10_decode_encode (N : Num) (hN : NumLaws N) (T : Ty) (v : Val)
    (hd : TagsDistinct T) (hok : ValOk T v.fields) :
    ∃ ne, encode N T v = .ok ne ∧
      decode N T ne (zero T) = { val := v, err := false, panic := none } := by
  obtain ⟨ls, hls, hal⟩ := encodeFields_ok N hN T v.fields hok
  have hdf := decodeFields_roundtrip N
    (ne := { id := v.id, parent := v.parent, points := collect false T ls, edgePoints := collect true T ls })
    (T0 := T) (xs0 := v.fields) (ls0 := ls) (hal0 := hal) (hpts := rfl) (hepts := rfl)
    T v.fields ls hal fun _ _ => pickTag_zip hd
  refine ⟨_, by rw [encode, hls], ?_⟩
  -- the node carries the value's id and parent; an empty one leaves the (empty) one of the zero value
  have hid (l : Bytes) : (if l.isEmpty then ([] : Bytes) else l) = l := by cases l <;> rfl
  simp only [decode, zero, hdf, hid]

/-- **The hypothesis on map keys is necessary (known finding).** A map entry with the empty key
does not survive: it comes back under the key "0". -/
theorem c10_empty_key_counter (N : Num) (hN : NumLaws N) :
    let T : Ty := [{ edge := false, ptype := [109], ty := .map .str }]
    let v : Val := { fields := [.map [([], .s [120])]] }
    ∃ ne, encode N T v = .ok ne ∧ (decode N T ne (zero T)).val = { fields := [.map [([48], .s [120])]] } :=
  ⟨_, rfl, rfl⟩

/-- every child list lines up with a `child` field, whose element type has distinct tags, and holds values of it -/
def KidsOk : List ChildField → List (List Val) → Prop
  | [], [] => True
  | cf :: cfs, ks :: kss => TagsDistinct cf.ty ∧ (∀ k ∈ ks, ValOk cf.ty k.fields) ∧ KidsOk cfs kss
  | _, _ => False

/-- the encoded children of the fields `cfs`: per field its elements in order, each decoding to its element -/
inductive KRel (N : Num) : List ChildField → List (List Val) → List (Bytes × NodeEdge) → Prop
  | nil : KRel N [] [] []
  | cons (cf : ChildField) (cfs : List ChildField) (ks : List Val) (kss : List (List Val)) (nes : List NodeEdge)
      (rest : List (Bytes × NodeEdge)) :
      nes.map (fun ne => decode N cf.ty ne (zero cf.ty)) = ks.map (fun k => ({ val := k, err := false, panic := none } : DecodeOut)) →
      KRel N cfs kss rest → KRel N (cf :: cfs) (ks :: kss) (nes.map (fun ne => (cf.ctype, ne)) ++ rest)

theorem encode_kid_list (N : Num) (hN : NumLaws N) (T : Ty) (hd : TagsDistinct T) : ∀ (ks : List Val), (∀ k ∈ ks, ValOk T k.fields) →
    ∃ nes, mapM' (fun k => encode N T k) ks = .ok nes ∧
      nes.map (fun ne => decode N T ne (zero T)) = ks.map (fun k => ({ val := k, err := false, panic := none } : DecodeOut)) := by
  intro ks h
  induction ks with
  | nil => exact ⟨[], rfl, rfl⟩
  | cons k ks ih =>
    obtain ⟨ne, hne, hdec⟩ := c10_decode_encode N hN T k hd (h k List.mem_cons_self)
    obtain ⟨nes, hnes, hall⟩ := ih fun x hx => h x (List.mem_cons_of_mem _ hx)
    exact ⟨ne :: nes, by simp only [mapM', hne, hnes], by rw [List.map_cons, hdec, hall]; rfl⟩

theorem encodeKids_ok (N : Num) (hN : NumLaws N) : ∀ (kfs : List ChildField) (kids : List (List Val)), KidsOk kfs kids →
    ∃ cs, encodeKids N kfs kids = .ok cs ∧ KRel N kfs kids cs := by
  intro kfs kids h
  fun_induction KidsOk kfs kids
  case case1 => exact ⟨[], rfl, .nil⟩
  case case2 cf cfs ks kss ih =>
    obtain ⟨nes, hnes, hall⟩ := encode_kid_list N hN cf.ty h.1 ks h.2.1
    obtain ⟨rest, hr, hrel⟩ := ih h.2.2
    exact ⟨_, by simp only [encodeKids, hnes, hr], .cons cf cfs ks kss nes rest hall hrel⟩
  case case3 => exact h.elim

theorem KRel.types {N : Num} {cfs : List ChildField} {kss : List (List Val)} {cs : List (Bytes × NodeEdge)}
    (h : KRel N cfs kss cs) : ∀ c ∈ cs, c.1 ∈ cfs.map (·.ctype) := by
  induction h with
  | nil => nofun
  | cons cf cfs ks kss nes rest _ _ ih =>
    intro c hc
    rcases List.mem_append.mp hc with hc | hc
    · obtain ⟨_, _, rfl⟩ := List.mem_map.mp hc
      exact List.mem_cons_self
    · exact List.mem_cons_of_mem _ (ih c hc)

theorem decodeKids_roundtrip (N : Num) (all : List (Bytes × NodeEdge)) :
    ∀ (kfs : List ChildField) (kids : List (List Val)) (cs : List (Bytes × NodeEdge)), KRel N kfs kids cs →
      (kfs.map (·.ctype)).Nodup →
      (∀ cf ∈ kfs, all.filter (fun c => c.1 == cf.ctype) = cs.filter (fun c => c.1 == cf.ctype)) →
      decodeKids N all kfs (kfs.map (fun _ => [])) = (kids, false, none) := by
  intro kfs kids cs h
  induction h with
  | nil => intro _ _; rfl
  | cons cf cfs ks kss nes rest hdec hrel ih =>
    intro hnd hall
    rw [List.map_cons, List.nodup_cons] at hnd
    -- the children encoded for this field are those of its type: the fields' types are distinct
    have hown : all.filter (fun c => c.1 == cf.ctype) = nes.map fun ne => (cf.ctype, ne) := by
      rw [hall cf List.mem_cons_self, List.filter_append, List.filter_eq_self.mpr, List.filter_eq_nil_iff.mpr, List.append_nil]
      · exact fun c hc heq => hnd.1 (beq_iff_eq.mp heq ▸ hrel.types c hc)
      · intro c hc
        obtain ⟨_, _, rfl⟩ := List.mem_map.mp hc
        exact beq_self_eq_true _
    have hrest : ∀ cf' ∈ cfs, all.filter (fun c => c.1 == cf'.ctype) = rest.filter (fun c => c.1 == cf'.ctype) := by
      intro cf' hcf'
      rw [hall cf' (List.mem_cons_of_mem _ hcf'), List.filter_append, List.filter_eq_nil_iff.mpr, List.nil_append]
      intro c hc heq
      obtain ⟨_, _, rfl⟩ := List.mem_map.mp hc
      exact hnd.1 ((beq_iff_eq.mp heq : cf.ctype = cf'.ctype) ▸ List.mem_map_of_mem (f := (·.ctype)) hcf')
    rw [List.map_cons, decodeKids, decodeKidField_ok N cf all nes ks hown hdec]
    dsimp only
    rw [ih hnd.2 hrest]
    rfl

/-- **C10 (child lists on decode).** A node handed to `Decode` together with its children — every element of every
`child` field encoded as a child node of the field's node type — decodes into the zero value as the same value with
the same child lists: every list with its elements in order, the empty ones left nil, children of other types ignored
by each field. (One level: the element types have no child fields of their own.) -/
theorem c10_decode_encode_children (N : Num) (hN : NumLaws N) (T : Ty) (kfs : List ChildField) (v : Val) (kids : List (List Val))
    (hd : TagsDistinct T) (hok : ValOk T v.fields) (hkd : (kfs.map (·.ctype)).Nodup) (hk : KidsOk kfs kids) :
    ∃ ne cs, encode N T v = .ok ne ∧ encodeKids N kfs kids = .ok cs ∧
      decodeC N T kfs ne cs (zero T) (kfs.map (fun _ => [])) = ({ val := v, err := false, panic := none }, kids) := by
  obtain ⟨ne, hne, hdec⟩ := c10_decode_encode N hN T v hd hok
  obtain ⟨cs, hcs, hrel⟩ := encodeKids_ok N hN kfs kids hk
  refine ⟨ne, cs, hne, hcs, ?_⟩
  rw [decodeC, hdec]
  dsimp only
  rw [decodeKids_roundtrip N cs kfs kids cs hrel hkd fun _ _ => rfl]
  rfl

/-- keys of flat structs come from the field tag or the camel-cased Go field name: never empty -/
def KeysOk : FieldTy → Prop
  | .struct fs => ∀ f ∈ fs, f.1 ≠ []
  | .ptrStruct fs => ∀ f ∈ fs, f.1 ≠ []
  | _ => True

/-- **Field diff/merge.** For every field type and every two values of it in the supported universe, `DiffPoints`
succeeds for the field, emits points of the field's type only, and merging them into the old value gives the new
one (`FNear`: equal, up to Go's `==` on floats and the order of map entries). -/
theorem field_diff (N : Num) (hN : NumLaws N) (pt : Bytes) (ty : FieldTy) (b a : FVal) (hb : FOk ty b) (ha : FOk ty a)
    (hk : KeysOk ty) :
    ∃ ps, diffField N pt ty b a = .ok ps ∧ (∀ p ∈ ps, p.type = pt) ∧ DiffRT N ty b a ps := by
  cases ty <;> cases b <;> try exact hb.elim
  all_goals cases a <;> try exact ha.elim
  case scalar.scalar.scalar k x y =>
    by_cases he : sEq N k x y = true
    · exact ⟨[], by unfold diffField; exact if_pos he, nofun, .inl ⟨rfl, .inr (.inl he)⟩⟩
    · have hs := (setScalar_addNorm _).trans (setScalar_pointOf (pt := pt) hN [] y ha)
      exact ⟨_, diffField_scalar x y ha he, List.forall_mem_singleton.mpr (addNorm_type _),
        diffRT_iff.mpr ⟨.scalar y, mergeField_scalar _ x y hs, Near.refl y⟩⟩
  case ptr.ptr.ptr k x y =>
    cases y with
    | none =>
      cases x with
      | none => exact ⟨[], rfl, nofun, .inl ⟨rfl, rfl⟩⟩
      | some x =>
        exact ⟨[addNorm { type := pt, tomb := 1 }], rfl, List.forall_mem_singleton.mpr (addNorm_type _),
          diffRT_iff.mpr ⟨.ptr none, mergeField_ptr _ _ (zeroS k) rfl, rfl⟩⟩
    | some y =>
      have hs := (setScalar_addNorm _).trans (setScalar_pointOf (pt := pt) hN [] y ha)
      exact ⟨_, diffField_ptr x y ha, List.forall_mem_singleton.mpr (addNorm_type _),
        diffRT_iff.mpr ⟨.ptr (some y), mergeField_ptr _ x y hs, rfl⟩⟩
  case slice.slice.slice k bs as =>
    exact ⟨idxPts N pt k bs as, diffIndexed_ok bs as ha.1 ha.2, idxPts_type bs as,
      diffRT_iff.mpr ⟨_, mergeField_slice hN bs as ha.1 hb.1 ha.2, nearL_mergeL bs as⟩⟩
  case array.array.array n k bs as =>
    obtain ⟨rfl, hn, hok⟩ := ha
    have hm := mergeField_array (pt := pt) hN bs [] as hn (by rw [List.append_nil]; exact hb.1) hok
    rw [List.append_nil] at hm
    exact ⟨idxPts N pt k bs as, diffIndexed_ok bs as hn hok, idxPts_type bs as, diffRT_iff.mpr ⟨_, hm, nearL_mergeL bs as⟩⟩
  case map.map.map k bkv akv =>
    have hbk := fun kv h => (hb.2.1 kv h).1
    exact ⟨mapPts N pt k bkv akv, diffField_map bkv akv ha.1 ha.2.1 hbk, mapPts_type bkv akv,
      diffRT_iff.mpr ⟨_, mergeField_map hN bkv akv ha.1 ha.2.1 hbk, nearM_mergeM bkv akv hb.2.2 ha.2.2⟩⟩
  case struct.struct.struct fs bs as =>
    obtain ⟨hla, hsz, hnd, hok⟩ := ha
    exact ⟨_, diffField_struct fs bs as hb.1 hla hsz hk hok, selPts_type _ fs bs as,
      diffRT_iff.mpr ⟨_, mergeField_struct hN _ fs bs as hnd hb.1 hla hok, nearS_changed fs bs as hb.1 hla⟩⟩
  case ptrStruct.ptrStruct.ptrStruct fs b a =>
    cases a with
    | none =>
      cases b with
      | none => exact ⟨[], rfl, nofun, .inl ⟨rfl, trivial⟩⟩
      | some bs =>
        exact ⟨_, diffField_ptrStruct_nil fs bs ha hk, tombPts_type _,
          diffRT_iff.mpr ⟨.ptrStruct none, mergeField_ptrStruct_dead fs _ fun h => absurd h hb.1, trivial⟩⟩
    | some as =>
      obtain ⟨hne, hla, hsz, hnd, hok⟩ := ha
      cases b with
      | none =>
        -- a nil pointer becoming a struct is diffed by encoding the struct
        exact ⟨_, encodeField_struct fs as hla hsz hok, selPts_type _ fs _ as,
          diffRT_iff.mpr ⟨_, mergeField_ptrStruct_none hN fs as hne hnd hla hok, NearS.refl fs as hla⟩⟩
      | some bs =>
        have hlb := hb.2.1
        exact ⟨_, diffField_struct fs bs as hlb hla hsz hk hok, selPts_type _ fs bs as,
          diffRT_iff.mpr ⟨_, mergeField_ptrStruct_some hN _ fs bs as hne hnd hlb hla hok, nearS_changed fs bs as hlb hla⟩⟩

/-- the per-field diff lists line up with the fields: nothing for `edgepoint` fields (DiffPoints skips them), and
for a `point` field its own points, which merge the old value into the new one -/
def DAligned (N : Num) : Ty → List FVal → List FVal → List (List Point) → Prop
  | [], [], [], [] => True
  | f :: fs, b :: bs, a :: as, l :: ls =>
    (if f.edge then l = [] else (∀ p ∈ l, p.type = f.ptype) ∧ DiffRT N f.ty b a l) ∧ DAligned N fs bs as ls
  | _, _, _, _ => False

/-- the merged fields: `point` fields hold the new value, `edgepoint` fields are untouched -/
def Merged (N : Num) : Ty → List FVal → List FVal → List FVal → Prop
  | [], [], [], [] => True
  | f :: fs, b :: bs, a :: as, r :: rs => (if f.edge then r = b else FNear N f.ty r a) ∧ Merged N fs bs as rs
  | _, _, _, _ => False

theorem diff_ok (N : Num) (hN : NumLaws N) : ∀ (T : Ty) (bs as : List FVal), ValOk T bs → ValOk T as →
    (∀ f ∈ T, KeysOk f.ty) → ∃ ls, diff N T bs as = .ok ls.flatten ∧ DAligned N T bs as ls := by
  intro T bs as hb ha hk
  induction T generalizing bs as with
  | nil =>
    cases bs <;> try exact hb.elim
    cases as <;> try exact ha.elim
    exact ⟨[], rfl, trivial⟩
  | cons f fs ih =>
    cases bs <;> try exact hb.elim
    cases as <;> try exact ha.elim
    case cons.cons b bs a as =>
      obtain ⟨hkf, hk⟩ := List.forall_mem_cons.mp hk
      obtain ⟨ls, hls, hal⟩ := ih bs as hb.2 ha.2 hk
      cases he : f.edge
      · obtain ⟨ps, hps, ht, hrt⟩ := field_diff N hN f.ptype f.ty b a hb.1 ha.1 hkf
        refine ⟨ps :: ls, ?_, ?_, hal⟩
        · simp only [diff, he, hps, hls]
          rfl
        · rw [he]
          exact ⟨ht, hrt⟩
      · refine ⟨[] :: ls, ?_, ?_, hal⟩
        · simp only [diff, he, hls]
          rfl
        · rw [he]
          exact rfl

theorem flatten_filter (N : Num) (pt : Bytes) : ∀ (T : Ty) (bs as : List FVal) (ls : List (List Point)),
    DAligned N T bs as ls → ls.flatten.filter (fun p => p.type == pt) = pickTag false pt T ls := by
  intro T bs as ls h
  fun_induction DAligned N T bs as ls
  case case1 => rfl
  case case2 f fs b bs a as l ls ih =>
    rw [List.flatten_cons, List.filter_append, ih h.2, pickTag]
    have hf := h.1
    cases he : f.edge <;> rw [he] at hf
    · rw [filter_own l pt f.ptype hf.1]
      by_cases hp : f.ptype = pt
      · rw [if_pos hp, if_pos ⟨rfl, hp⟩]
      · rw [if_neg hp, if_neg fun h => hp h.2]; rfl
    · rw [if_pos rfl] at hf
      rw [hf, if_neg fun h => nomatch h.1]; rfl
  case case3 => exact h.elim

theorem DAligned.length_eq {N : Num} {T : Ty} {bs as : List FVal} {ls : List (List Point)} (h : DAligned N T bs as ls) :
    T.length = ls.length := by
  fun_induction DAligned N T bs as ls
  case case1 => rfl
  case case2 ih => exact congrArg (· + 1) (ih h.2)
  case case3 => exact h.elim

/-- The induction behind `c10_merge_diff`: on a node whose points of each type are the diff points of the `point` field with that
    tag (`pickTag`) and that has no edge points, `decodeFields` merges field by field into `Merged` values. -/
theorem mergeFields (N : Num) (ne : NodeEdge) (hne : ne.edgePoints = []) (T0 : Ty) (ls0 : List (List Point))
    (hpts : ∀ pt, ne.points.filter (fun p => p.type == pt) = pickTag false pt T0 ls0) :
    ∀ (T : Ty) (bs as : List FVal) (ls : List (List Point)), DAligned N T bs as ls →
      (∀ f l, (f, l) ∈ T.zip ls → f.edge = false → pickTag false f.ptype T0 ls0 = l) →
      ∃ rs, decodeFields N ne T bs = (rs, false, none) ∧ Merged N T bs as rs := by
  intro T bs as ls h hpick
  fun_induction DAligned N T bs as ls
  case case1 => exact ⟨[], rfl, trivial⟩
  case case2 f fs b bs a as l ls ih =>
    obtain ⟨rs, hrs, hm⟩ := ih h.2 fun g m hg => hpick g m (List.mem_cons_of_mem _ hg)
    have hf := h.1
    have : ∃ r, (if f.edge then ne.edgePoints else ne.points).filter (fun p => p.type == f.ptype) = l ∧
        mergeField N f.ty b l = (r, .ok) ∧ if f.edge then r = b else FNear N f.ty r a := by
      cases he : f.edge <;> rw [he] at hf
      · obtain ⟨r, hr, hnear⟩ := diffRT_iff.mp hf.2
        exact ⟨r, (hpts f.ptype).trans (hpick f l List.mem_cons_self he), hr, hnear⟩
      · rw [if_pos rfl] at hf
        exact ⟨b, by rw [hf, if_pos rfl, hne]; rfl, by rw [hf]; rfl, rfl⟩
    obtain ⟨r, hfil, hr, hnear⟩ := this
    exact ⟨r :: rs, by rw [decodeFields_cons_ok ne f fs b r bs l hfil hr, hrs], hnear, hm⟩
  case case3 => exact h.elim

/-- **C10 (second half): Merge ∘ Diff.** For every supported configuration type `T` with distinct tags and every
ordered pair of values `b` (before), `a` (after) of `T` in the supported universe — sizes ≤ 1000, integers within
±(2^53−1), non-empty unique map keys — `DiffPoints b a` succeeds, and `MergePoints` of the produced points into `b`
reports no error and leaves every `point` field holding the value it has in `a` (`Merged` / `FNear`): scalars and
struct fields equal (for floats: equal or `==`, since no point is emitted for a field Go calls unchanged), pointers
equal including nil, slices of the new length with the new elements whether they grew or shrank, arrays element by
element, maps with exactly the new key set (removed entries gone) — and every `edgepoint` field untouched. -/
theorem c10_merge_diff (N : Num) (hN : NumLaws N) (T : Ty) (b a : Val)
    (hd : TagsDistinct T) (hk : ∀ f ∈ T, KeysOk f.ty) (hb : ValOk T b.fields) (ha : ValOk T a.fields) (hid : b.id ≠ []) :
    ∃ pts, diff N T b.fields a.fields = .ok pts ∧
      ∃ r, mergePoints N T b.id pts b = some { val := { id := b.id, parent := b.parent, fields := r }, err := false, panic := none } ∧
        Merged N T b.fields a.fields r := by
  obtain ⟨ls, hls, hal⟩ := diff_ok N hN T b.fields a.fields hb ha hk
  obtain ⟨rs, hrs, hm⟩ := mergeFields N { id := b.id, points := ls.flatten } rfl T ls
    (fun pt => flatten_filter N pt T b.fields a.fields ls hal) T b.fields a.fields ls hal
    fun f l hfl he => he ▸ pickTag_zip hd hfl
  refine ⟨ls.flatten, hls, rs, ?_, hm⟩
  have hie : b.id.isEmpty = false := List.isEmpty_eq_false_iff.mpr hid
  -- `MergePoints` accepts the points (the id is given and is the value's own), and `decode` keeps id and parent
  simp only [mergePoints, hie, Bool.false_eq_true, ne_eq, not_true_eq_false, or_self, if_false, decode, hrs,
    List.isEmpty_nil, if_true]

/- The hypotheses are decidable, so that concrete types and values can be checked by evaluation. -/

instance (k : SKind) (v : SVal) : Decidable (SOk k v) := by unfold SOk; split <;> infer_instance

instance (ty : FieldTy) (v : FVal) : Decidable (FOk ty v) := by unfold FOk; split <;> infer_instance

instance (T : Ty) : Decidable (TagsDistinct T) := inferInstanceAs (Decidable (List.Nodup _))

instance ValOk.dec : (T : Ty) → (xs : List FVal) → Decidable (ValOk T xs)
  | [], [] => isTrue trivial
  | _ :: fs, _ :: xs => have := ValOk.dec fs xs; inferInstanceAs (Decidable (_ ∧ _))
  | [], _ :: _ => isFalse id
  | _ :: _, [] => isFalse id

instance (ty : FieldTy) : Decidable (KeysOk ty) := by unfold KeysOk; split <;> infer_instance

/-- non-vacuity: a type with a slice, a map, a pointer and an edge field; a value of it satisfies the
    hypotheses of `c10_decode_encode` -/
example :
    let T : Ty := [⟨false, [97], .slice (.int 32)⟩, ⟨false, [98], .map .str⟩, ⟨false, [99], .ptr .bool⟩, ⟨true, [97], .scalar (.uint 8)⟩]
    let v : List FVal := [.slice [.i 5, .i (-7)], .map [([107], .s [120])], .ptr none, .scalar (.u 255)]
    TagsDistinct T ∧ ValOk T v := by
  decide +kernel

/-- non-vacuity of `c10_merge_diff`: a slice that shrinks, a map entry that is removed, a pointer that becomes nil and
    a flat struct — both values satisfy the hypotheses -/
example :
    let T : Ty := [⟨false, [97], .slice (.int 32)⟩, ⟨false, [98], .map .str⟩, ⟨false, [99], .ptr .bool⟩,
                   ⟨false, [100], .struct [([107], .f64), ([108], .str)]⟩]
    let b : List FVal := [.slice [.i 5, .i (-7), .i 9], .map [([107], .s [120]), ([109], .s [])], .ptr (some (.b true)), .struct [.f 0, .s [1]]]
    let a : List FVal := [.slice [.i 5], .map [([109], .s [121])], .ptr none, .struct [.f 1, .s [1]]]
    TagsDistinct T ∧ (∀ f ∈ T, KeysOk f.ty) ∧ ValOk T b ∧ ValOk T a := by
  decide +kernel

end Siot.Config
