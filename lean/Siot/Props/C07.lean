import Siot.Lemmas.Manager
import Siot.Lemmas.StoreOps
import Siot.Gen.Manager
/-
C07 — Exactly one running client per live configured node.
The bookkeeping model mirrors scan as it stands in this repository, with its fix commits: no early return on an empty
result, and a node whose client cannot be constructed is skipped.
-/
namespace Siot.Manager
open Siot Siot.Store

/-- **C07 (which nodes get a client).** In every reachable store state, the placements a manager wants a
client for are exactly the non-deleted edges `parent → id` of the managed type whose parent is the root
node or can be reached from it going down through non-deleted edges to nodes of a parent type (the
configured ones, or "group") — one placement per parent the node appears under. -/
theorem c07_wanted_iff (isDel : Nat → Bool) (st : St) (hinv : Inv st) (typ : Bytes) (parents : List Bytes) (k : Key) :
    k ∈ wanted isDel st typ parents ↔
      Path (Auth.live isDel st) (parents ++ [groupT]) st.root k.1 ∧
      ∃ e ∈ Auth.live isDel st, e.up = k.1 ∧ e.down = k.2 ∧ e.typ = typ := by
  obtain ⟨r, hr1, hr2⟩ := hinv.ranked_sub (es := Auth.live isDel st) fun _ => keysOf_filter_subset
  refine ⟨scanH_sound, fun ⟨hp, e, he, hup, hdown, htyp⟩ => ?_⟩
  -- the walk goes down, the rank goes up and is bounded: the distance to the bound falls
  have hh : ∀ e ∈ Auth.live isDel st, 2 ^ st.edges.length - r e.down < 2 ^ st.edges.length - r e.up := by
    intro e he
    have h1 : r e.up < r e.down := hr1 _ (List.mem_map_of_mem (f := keyOf) he)
    have h2 := hr2 e.down
    omega
  have := scanH_complete (fuel := 2 ^ st.edges.length + 1) (fun x => 2 ^ st.edges.length - r x) hh
    (Nat.lt_succ_of_le (Nat.sub_le ..)) hp he hup htyp
  rwa [hup, hdown] at this

/-- **C07 (never two clients for one placement).** Whatever happens — scans, life-cycle triggers, client
exits, Stop, in any order and with the store changing arbitrarily in between — the manager never holds
two clients for the same placement: a placement's client is replaced only after its predecessor's Run
has returned and it has been removed. -/
theorem c07_one_client_per_placement (es : List Event) : (keys (run {} es).clients).Nodup :=
  run_nodup es {} List.nodup_nil

/-- **C07 (quiescence).** Let the store stop changing (`w`: the wanted placements with the children each
would be constructed with; `bad`: those among them whose client cannot be constructed — newClientState fails, e.g.
a point the configuration cannot take). From ANY manager state with one client per placement that is running, after
one scan and after the clients told to stop have exited (any number of exits, in any order — each is
followed by the manager's rescan), as soon as no client is stopping any more:
every wanted placement whose client can be constructed has a client, only wanted placements have one, one each;
no client was constructed for a placement whose construction fails (the manager neither crashes on it nor runs a
half-made client: such a placement has a client only if it had one before); and (given that every running client's
children were current, which `c07_children_current_kept` maintains) every client holds the current children. -/
theorem c07_quiesce (bad : List Key) (w : Want) (m : Mgr) (hnd : (keys m.clients).Nodup) (hlive : m.stopping = false ∧ m.done = false)
    (hf : Fresh w m) (ks : List Key) :
    let m' := run (step m (.scan w bad)) (ks.map (fun k => Event.exited k w bad))
    (∀ c ∈ m'.clients, c.stopping = false) →
      (∀ k ∈ wkeys w, k ∉ bad → k ∈ keys m'.clients) ∧ (∀ k ∈ keys m'.clients, k ∈ wkeys w) ∧
      (∀ k ∈ keys m'.clients, k ∈ bad → k ∈ keys m.clients) ∧ (keys m'.clients).Nodup ∧ Fresh w m' := by
  intro m' hquiet
  have hscan : step m (.scan w bad) = scan bad w m := if_neg (by simp [hlive.2])
  have h := exits_settling (hscan ▸ scan_settling hnd hlive hf fun _ hk _ => hk) ks
  refine ⟨h.toward.have_all, fun k hk => ?_, h.nobad, h.toward.nodup, h.fresh⟩
  obtain ⟨c, hc, rfl⟩ := mem_keys.mp hk
  -- a client of an unwanted placement would have been told to stop
  exact Classical.byContradiction fun hw => by simpa [hquiet c hc] using h.toward.extra_stopping c hc hw

/-- progress: while some client is stopping, an exit is possible and removes it; the number of clients
    told to stop never grows by exits and rescans (so quiescence is reached after that many exits) -/
theorem c07_exit_removes (bad : List Key) (w : Want) (m : Mgr) (h : Toward bad w m) (c : Client) (hc : c ∈ m.clients) (hs : c.stopping = true) :
    ∀ c' ∈ (step m (.exited c.key w bad)).clients, c'.key = c.key → c'.stopping = false := by
  intro c' hc' hk
  rw [step_exited, if_pos (leaves_of_mem hc hs), if_neg (Bool.eq_false_iff.mp h.live.1)] at hc'
  rcases (mem_scan bad w _ (by exact h.live.1) c').mp hc' with hold | ⟨_, hnew, _⟩
  · -- every old client of that placement has been removed
    obtain ⟨c0, hc0, hk0⟩ := key_of_mem_stopIf hold
    exact absurd (hk0.trans hk) (mem_without.mp hc0).2
  · exact hnew

/-- a store change that alters the children of some placements, with the affected clients' subscriptions
    triggering (C06/C08: the child's edge points reach `up.<client>.>`), keeps running clients current -/
theorem c07_children_current_kept (w w' : Want) (m : Mgr) (hf : Fresh w m)
    (changed : List Key) (hch : ∀ k, lookupW w k ≠ lookupW w' k → k ∈ changed) :
    Fresh w' (changed.foldl (fun m k => step m (.trigger k)) m) := by
  intro c hc hs x hx
  obtain ⟨hc0, hn⟩ := triggers_running hc hs
  have heq : lookupW w c.key = lookupW w' c.key := Classical.byContradiction fun he => hn (hch c.key he)
  exact hf c hc0 hs x (heq ▸ hx)

/-- **C07 (Stop stops everything and returns).** After `Stop`, once every client has exited (the exits
may come in any order, cover every client), no client is left and Run has returned. -/
theorem c07_stop_returns (m : Mgr) (ks : List (Key × Want)) (hcover : ∀ c ∈ m.clients, c.key ∈ ks.map (·.1)) :
    let m' := run (step m .stop) (ks.map (fun x => Event.exited x.1 x.2 []))
    m'.clients = [] ∧ m'.done = true := by
  have h0 : Stopped (step m .stop) :=
    ⟨rfl, fun c hc => stopping_of_mem_stopIf (clients_stop m ▸ hc) rfl, fun he => by simp [step, List.map_eq_nil_iff.mp he]⟩
  obtain ⟨h1, h2⟩ := exits_stopped h0 ks []
  have hnil := List.eq_nil_iff_forall_not_mem.mpr fun c hc => by
    obtain ⟨c0, hc0, hk⟩ := key_of_mem_stopIf (clients_stop m ▸ (h2 c hc).1)
    exact (h2 c hc).2 (hk ▸ hcover c0 hc0)
  exact ⟨hnil, h1.done hnil⟩

/-- non-vacuity: a deleted group takes the last client with it — the scan result is empty, the client
    is told to stop, and after its exit nothing runs (the history that fails before the repair) -/
example :
    let k : Key := ([103], [99])
    let m := run {} [.scan [(k, [])] [], .scan [] [], .exited k [] []]
    m.clients = [] ∧ (run {} [.scan [(k, [])] [], .scan [] []]).clients = [⟨k, [], true⟩] := by decide +kernel

/-- non-vacuity of the `bad` part: a placement whose client cannot be constructed is skipped while its neighbour gets
    a client; once it can be constructed (the point was repaired), the next scan starts it -/
example :
    let k : Key := ([103], [99])
    let b : Key := ([103], [98])
    (run {} [.scan [(k, []), (b, [])] [b]]).clients = [⟨k, [], false⟩] ∧
    (run {} [.scan [(k, []), (b, [])] [b], .scan [(k, []), (b, [])] []]).clients = [⟨k, [], false⟩, ⟨b, [], false⟩] := by decide +kernel

/-- tie A: scanHelper, the bookkeeping of scan, the exit hand-shake and Stop in client/manager.go and
client/client-state.go have the shape the model transcribes (after the repair: no early return). -/
theorem gen_manager_pinned :
    Gen.scanHelperGetNodes = ["m.nc, id, \"all\", m.nodeType, false", "m.nc, id, \"all\", parentType, false"] ∧
    Gen.scanHelperRanges = ["m.parentTypes", "parentNodes"] ∧
    Gen.mapKeyReturn = ["node.Parent + \"-\" + node.ID"] ∧
    Gen.scanRanges = ["nodes", "points", "points", "m.clientStates"] ∧
    Gen.scanNew = ["m.nc, m.construct, n"] ∧
    Gen.scanBookIfs = ["err != nil", "ok", "err != nil", "err != nil", "ok"] ∧
    -- the third `if` is the one after newClientState: it skips the node (after the repair) instead of going on with a nil state
    Gen.scanIfExits = ["err != nil -> return", "ok -> continue", "err != nil -> continue", "err != nil -> return", "ok -> continue"] ∧
    Gen.runScans = ["m.root", "m.root", "", "", ""] ∧
    Gen.runDeletes = ["m.clientUpSub, key", "m.clientStates, key"] ∧
    Gen.runIfsMgr = ["err != nil", "len(nodes) < 1", "err != nil", "p.Type == data.PointTypeNodeType", "err != nil", "err != nil", "stopping",
      "err != nil", "len(m.clientStates) > 0", "err != nil", "!m.clientUpSub[key].IsValid()", "time.Since(start) > time.Second*1", "err != nil",
      "stopping", "len(m.clientStates) <= 0"] ∧
    Gen.newManagerParents = ["nodeType: nodeType", "parentTypes: append(parentTypes, data.NodeTypeGroup)"] ∧
    Gen.csNewGetNodes = ["nc, n.ID, \"all\", \"\", false"] :=
  ⟨rfl, rfl, rfl, rfl, rfl, rfl, rfl, rfl, rfl, rfl, rfl, rfl⟩

/-- non-vacuity of `c07_wanted_iff` and of the premises of `c07_quiesce`: a reachable store — root device R, a group g below it,
    a client node c1 (type "vdev") in the group, a second one c2 below a DELETED group — wants exactly the placement (g, c1);
    and a manager that has just scanned for it satisfies `Nodup`, is live, and is `Fresh` -/
example :
    let isDel : Nat → Bool := fun v => v == 4607182418800017408
    let nt : Bytes → Int → Point := fun ty t => { type := nodeTypeT, text := ty, time := t }
    let vdev : Bytes := [118, 100, 101, 118]
    let st := Store.run {} [
      .ep [82] [] [{ type := tombstoneT, time := 1 }, nt [100] 1],
      .ep [103] [82] [{ type := tombstoneT, time := 2 }, nt groupT 2],
      .ep [104] [82] [{ type := tombstoneT, time := 3, value := 4607182418800017408 }, nt groupT 3],
      .ep [99, 49] [103] [{ type := tombstoneT, time := 4 }, nt vdev 4],
      .ep [99, 50] [104] [{ type := tombstoneT, time := 5 }, nt vdev 5]]
    let w : Want := [(([103], [99, 49]), [])]
    let m := Manager.step {} (.scan w [])
    Store.Inv st ∧ wanted isDel st vdev [] = [([103], [99, 49])] ∧
      (keys m.clients).Nodup ∧ (m.stopping = false ∧ m.done = false) ∧ Fresh w m ∧ m.clients ≠ [] := by
  intro isDel nt vdev st w m
  have h := scan_settling (bad := []) (w := w) (m := {}) (K := []) List.nodup_nil ⟨rfl, rfl⟩ (fun _ hc => nomatch hc) (fun _ hk => nomatch hk)
  exact ⟨Store.Inv.empty.run _, by decide +kernel, h.toward.nodup, h.toward.live, h.fresh, by decide +kernel⟩

end Siot.Manager
