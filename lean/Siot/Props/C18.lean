import Siot.Lemmas.ModbusConforms
import Siot.Gen.Modbus
/-
C18 — The Modbus server answers every request safely and per specification.
Model: Siot/Model/Modbus.lean (PDU.ProcessRequest, Regs). Specification: Siot/Spec/ModbusSpec.lean.
-/
namespace Siot.Modbus
open Siot Siot.Modbus.Spec

/-- Tie A: function codes, exception codes, coil values, quantity limits, the minimum request
length table and the comparisons of ProcessRequest as they are in modbus/*.go right now. -/
theorem gen_modbus_pinned :
    Gen.mbFuncCodeReadCoils = 1 ∧ Gen.mbFuncCodeReadDiscreteInputs = 2 ∧ Gen.mbFuncCodeReadHoldingRegisters = 3 ∧
    Gen.mbFuncCodeReadInputRegisters = 4 ∧ Gen.mbFuncCodeWriteSingleCoil = 5 ∧ Gen.mbFuncCodeWriteSingleRegister = 6 ∧
    Gen.mbFuncCodeWriteMultipleCoils = 15 ∧ Gen.mbFuncCodeWriteMultipleRegisters = 16 ∧
    Gen.mbExcIllegalFunction = 1 ∧ Gen.mbExcIllegalAddress = 2 ∧ Gen.mbExcIllegalValue = 3 ∧
    Gen.mbWriteCoilValueOn = 0xff00 ∧ Gen.mbWriteCoilValueOff = 0 ∧
    Gen.mbmaxReadBits = 2000 ∧ Gen.mbmaxReadRegs = 125 ∧ Gen.mbmaxWriteBits = 1968 ∧ Gen.mbmaxWriteRegs = 123 ∧
    Gen.mbmaxAddress = 65535 ∧
    Gen.mbMinRequestLen = [(1, 5), (2, 5), (3, 5), (4, 5), (5, 5), (6, 5), (15, 7), (16, 8), (22, 7), (23, 12), (24, 3)] ∧
    Gen.mbProcessRequestCmps = ["<1", ">maxReadBits", "==FuncCodeReadDiscreteInputs", "<1", ">maxReadRegs",
      "==FuncCodeReadInputRegisters", "<1", ">maxWriteBits", "==1", "<1", ">maxWriteRegs"] := by
  and_intros <;> rfl

/-- the model's table is the pinned one -/
theorem minRequestLen_table : ∀ p ∈ Gen.mbMinRequestLen, minRequestLen p.1 = p.2 := by decide +kernel

/-- **C18 (main): conformance.** For EVERY register file, function code (0–255 and beyond) and data
bytes: the server's reaction is the one the Modbus specification prescribes (`Spec.respond`) — the
same normal response, the same exception, or no response for a request shorter than its fixed header —
and wherever the specification fixes the register file afterwards, it is that register file. -/
theorem c18_conforms (rs : Regs) (fc : Nat) (data : Bytes) :
    Agree (processRequest rs fc data) (respond rs fc data) := by
  by_cases h : data.length < fixedLen fc
  · rw [processRequest_short rs fc data h, respond_short rs fc data h]
    exact ⟨rfl, fun _ => Option.some.inj⟩
  · exact (processRequest_reply rs fc data (Nat.le_of_not_lt h)).agree

/-- **C18 totality.** No request makes the server crash: the outcome is a normal response, an
exception response or "too short" — never a run-time panic (index or slice out of range). -/
theorem c18_total (rs : Regs) (fc : Nat) (data : Bytes) :
    ∀ m, (processRequest rs fc data).1 ≠ .panic m := by
  intro m h
  have := (c18_conforms rs fc data).1
  rw [h] at this
  cases this

/-- "too short" exactly when the data is shorter than the function's fixed header -/
theorem c18_tooShort_iff (rs : Regs) (fc : Nat) (data : Bytes) :
    (processRequest rs fc data).1 = .tooShort ↔ data.length < fixedLen fc :=
  ⟨fun ht => Decidable.by_contra fun hl => (processRequest_reply rs fc data (Nat.le_of_not_lt hl)).ne_tooShort ht,
   fun hl => by rw [processRequest_short rs fc data hl]⟩

theorem reqReadBits_regs (rs : Regs) (fc : Nat) (data : Bytes) : (reqReadBits rs fc data).2 = rs := by
  unfold reqReadBits
  split
  · -- the two header tests and the read loop choose the answer only: each is paired with `rs`
    exact snd_ite rfl (snd_ite rfl (by split <;> rfl))
  · rfl

theorem reqReadWords_regs (rs : Regs) (fc : Nat) (data : Bytes) : (reqReadWords rs fc data).2 = rs := by
  unfold reqReadWords
  split
  · exact snd_ite rfl (snd_ite rfl (by split <;> rfl))
  · rfl

theorem c18_reads_keep_regs (rs : Regs) (fc : Nat) (hfc : fc = 1 ∨ fc = 2 ∨ fc = 3 ∨ fc = 4) (data : Bytes) :
    (processRequest rs fc data).2 = rs := by
  by_cases hl : data.length < fixedLen fc
  · rw [processRequest_short rs fc data hl]
  rw [processRequest, if_neg (not_short fc data (Nat.le_of_not_lt hl))]
  by_cases h12 : fc = 1 ∨ fc = 2
  · rw [if_pos h12]; exact reqReadBits_regs rs fc data
  · rw [if_neg h12, if_pos ((or_assoc.mpr hfc).resolve_left h12)]; exact reqReadWords_regs rs fc data

/-- **C18: an exception to a read or a single write leaves all registers unchanged** (and reads
never change registers at all). -/
theorem c18_exception_keeps_regs (rs : Regs) (fc : Nat) (data : Bytes)
    (hfc : fc ≠ 15 ∧ fc ≠ 16) (code fc' : Nat)
    (h : (processRequest rs fc data).1 = .exception fc' code) : (processRequest rs fc data).2 = rs := by
  by_cases hl : data.length < fixedLen fc
  · rw [processRequest_short rs fc data hl]
  · exact (processRequest_reply rs fc data (Nat.le_of_not_lt hl)).keeps hfc h

/-- a written register holds the value, every other register is untouched -/
theorem setReg_read (rs : Regs) (a v b : Nat) (ha : a < 65536) (hb : b < 65536)
    (hex : readReg rs a ≠ none) :
    readReg (setReg rs a v) b = if b = a then some v else readReg rs b := by
  induction rs with
  | nil => exact absurd rfl hex
  | cons r rs ih =>
    rw [setReg, readReg, Nat.mod_eq_of_lt hb]
    by_cases hr : r.addr = a
    · rw [if_pos hr, readReg, Nat.mod_eq_of_lt hb]
      by_cases hba : b = a
      · rw [if_pos hba, if_pos (hr.trans hba.symm)]
      · have hrb : ¬ r.addr = b := fun h => hba (h.symm.trans hr)
        rw [if_neg hba, if_neg hrb, if_neg hrb]
    · rw [readReg, Nat.mod_eq_of_lt ha, if_neg hr] at hex
      rw [if_neg hr, readReg, Nat.mod_eq_of_lt hb, ih hex]
      by_cases hrb : r.addr = b
      · rw [if_pos hrb, if_pos hrb, if_neg fun h => hr (hrb.trans h)]
      · rw [if_neg hrb, if_neg hrb]

theorem bits_of_sum (f : Nat → Bool) (i : Nat) (hi : i < 8) :
    ((List.range 8).foldl (fun acc k => acc + if f k then 2 ^ k else 0) 0).testBit i = f i :=
  (sum_bits f 8).2 i hi

/-- bit `i` of status byte `j` is coil `8 j + i` of the addressed range: reads report exactly the
addressed coils, zero padded -/
theorem statusByte_bit (bits : List Bool) (j i : Nat) (hi : i < 8) :
    (statusByte bits j).testBit i = bits.getD (8 * j + i) false :=
  (statusByte_spec bits j).2 i hi

/-- non-vacuity: a 12-coil read over a 2-register map, and a register read crossing the map -/
example :
    let rs : Regs := [⟨0, 0xA5F0, fun _ => true⟩, ⟨1, 0x0003, fun _ => true⟩]
    (processRequest rs 1 [0, 4, 0, 12]).1 = .normal 1 [2, 0x5f, 0x0a] ∧
    (processRequest rs 3 [0, 1, 0, 2]).1 = .exception 131 2 ∧
    (processRequest rs 3 [0, 0, 0x80, 0]).1 = .exception 131 3 := by
  decide +kernel

end Siot.Modbus
