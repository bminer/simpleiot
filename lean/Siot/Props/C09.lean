import Siot.Lemmas.Auth
import Siot.Lemmas.StoreOps
import Siot.Gen.Auth
/-
C09 — No node access without valid credentials; valid users can log in.
`tokenOK` stands for the JWT check of github.com/golang-jwt/jwt (HS256 signature with the instance key,
not expired) — library code, exercised by the harness with forged, expired and tampered tokens.
-/
namespace Siot.Auth
open Siot Siot.Store

/-- **C09 (gate).** A request passes the gate in front of the node routes exactly when its
Authorization header IS the instance's auth token, or splits (on white space) into at least two fields
of which the first is `Bearer` and the second is a token the instance accepts. -/
theorem c09_gate_iff (tok : Bytes) (ok : Bytes → Bool) (hdr : Bytes) :
    gate tok ok hdr = true ↔ hdr = tok ∨ ∃ t rest, fields hdr = bearer :: t :: rest ∧ ok t = true := by
  rw [gate, Bool.or_eq_true, beq_iff_eq, keyValid_iff]

/-- anything else is refused: not the token, and no white-space separated piece of the header is an
    acceptable JWT ⇒ 401 (absent, empty, malformed, wrong scheme, forged, expired, tampered) -/
theorem c09_gate_rejects (tok : Bytes) (ok : Bytes → Bool) (hdr : Bytes) (h1 : hdr ≠ tok)
    (h2 : ∀ t ∈ fields hdr, ok t = false) : gate tok ok hdr = false := by
  refine Bool.eq_false_iff.mpr fun hg => ?_
  obtain ⟨t, rest, hf, hok⟩ := bearer_of_gate hg h1
  rw [h2 t (by rw [hf]; simp)] at hok
  cases hok

/-- the scheme word is compulsory and case-sensitive: a bare valid JWT, or one behind another first
    word, does not pass (unless the header equals the auth token) -/
theorem c09_gate_needs_bearer (tok : Bytes) (ok : Bytes → Bool) (hdr : Bytes) (h1 : hdr ≠ tok)
    (h2 : (fields hdr).head? ≠ some bearer) : gate tok ok hdr = false := by
  refine Bool.eq_false_iff.mpr fun hg => ?_
  obtain ⟨t, rest, hf, _⟩ := bearer_of_gate hg h1
  rw [hf] at h2
  exact h2 rfl

/-- the token that opens the gate is a non-empty, white-space free piece of the header -/
theorem c09_token_is_a_field (tok : Bytes) (ok : Bytes → Bool) (hdr : Bytes) (hg : gate tok ok hdr = true) (h1 : hdr ≠ tok) :
    ∃ t ∈ fields hdr, ok t = true ∧ t ≠ [] ∧ ∀ b ∈ t, isSpace b = false := by
  obtain ⟨t, rest, hf, hok⟩ := bearer_of_gate hg h1
  have hm : t ∈ fields hdr := by rw [hf]; simp
  exact ⟨t, hm, hok, fields_mem hm⟩

/-- non-vacuity: the two legitimate ways in do get in -/
theorem c09_gate_accepts (tok : Bytes) (ok : Bytes → Bool) (t : Bytes) (hne : t ≠ []) (ht : ∀ b ∈ t, isSpace b = false)
    (hok : ok t = true) : gate tok ok tok = true ∧ gate tok ok (bearer ++ 32 :: t) = true := by
  refine ⟨by simp [gate], ?_⟩
  rw [c09_gate_iff]
  exact Or.inr ⟨t, [], fields_bearer hne ht, hok⟩

/-- **C09 (login).** In every reachable store state, `userCheck` returns something — and a token is
issued — exactly when some node of type user carries this e-mail and password and hangs off the root
sentinel through edges that are not deleted. (`isDel` is the tombstone test on the value bits.) -/
theorem c09_login_iff (isDel : Nat → Bool) (st : St) (hinv : Inv st) (email pass : Bytes) :
    userCheck isDel st email pass ≠ [] ↔
      ∃ e ∈ st.edges, e.typ = userT ∧ textOf (ptsOf st e.down) emailT = email ∧ textOf (ptsOf st e.down) passT = pass ∧
        PathToRoot (keysOf (live isDel st)) e.down := by
  obtain ⟨r, hr1, hr2⟩ := hinv.ranked_sub (es := live isDel st) fun _ => keysOf_filter_subset
  constructor
  · intro hne
    obtain ⟨u, hu⟩ := List.exists_mem_of_ne_nil _ hne
    obtain ⟨e, he, htyp, hcred, ⟨e', _, hd, rfl⟩, hpath⟩ := mem_userCheck.mp hu
    exact ⟨e, he, htyp, hcred.1, hcred.2, hd ▸ checkPath_sound hpath⟩
  · rintro ⟨e, he, htyp, hem, hpw, hpath⟩
    obtain ⟨e', he', hd'⟩ : ∃ e' ∈ live isDel st, e'.down = e.down := by
      cases hpath with
      | direct _ hk => exact mem_keysOf.mp hk |>.imp fun _ h => ⟨h.1, h.2.2⟩
      | via _ k hk hkn _ => exact mem_keysOf.mp hk |>.imp fun _ h => ⟨h.1, h.2.2.trans hkn⟩
    rw [← hd'] at hpath
    exact List.ne_nil_of_mem (mem_userCheck.mpr
      ⟨e, he, htyp, ⟨hem, hpw⟩, ⟨e', he', hd', rfl⟩, checkPath_complete r hr1 (hr2 _) hpath⟩)

/-- a deleted placement does not count: a user whose every upward path crosses a deleted edge cannot log in
    (contrapositive reading of `c09_login_iff`, stated for the record) -/
theorem c09_no_login_without_live_path (isDel : Nat → Bool) (st : St) (hinv : Inv st) (email pass : Bytes)
    (h : ∀ e ∈ st.edges, e.typ = userT → textOf (ptsOf st e.down) emailT = email → textOf (ptsOf st e.down) passT = pass →
      ¬ PathToRoot (keysOf (live isDel st)) e.down) :
    userCheck isDel st email pass = [] := by
  refine Classical.byContradiction fun hne => ?_
  obtain ⟨e, he, ht, h1, h2, hp⟩ := (c09_login_iff isDel st hinv email pass).mp hne
  exact h e he ht h1 h2 hp

/-- **C09 (listing).** Every node instance shown to a user is a place the user is attached to (through
a non-deleted edge) or lies below such a place through non-deleted edges. -/
theorem c09_listing_only_subtrees (isDel : Nat → Bool) (st : St) (uid : Bytes) (x : Bytes × Bytes)
    (hx : x ∈ listing isDel st uid) :
    ∃ un ∈ live isDel st, un.down = uid ∧ (x.1 = un.up ∨ Below (keysOf (live isDel st)) un.up x.1) := by
  obtain ⟨un, ⟨hun, hd⟩, ⟨e, ⟨_, hed⟩, rfl⟩ | hx⟩ := mem_listing.mp hx
  · exact ⟨un, hun, hd, Or.inl hed⟩
  · exact ⟨un, hun, hd, Or.inr (getChildren_sound hx).1⟩

/-- Every shown instance below a place is a real non-deleted edge (nothing is invented). -/
theorem c09_listing_edges_are_live (isDel : Nat → Bool) (st : St) (uid : Bytes) (x : Bytes × Bytes)
    (hx : x ∈ listing isDel st uid) (hnr : x.2 ≠ rootS) : (x.2, x.1) ∈ keysOf (live isDel st) := by
  obtain ⟨un, _, ⟨e, _, rfl⟩ | hx⟩ := mem_listing.mp hx
  · exact absurd rfl hnr
  · exact (getChildren_sound hx).2

/-- tie A: the gate, the bearer parsing, the JWT acceptance expression, the token lifetime, the login
walk (after the repair), the listing requests and the bus token wiring have the shape the model transcribes. -/
theorem gen_auth_pinned :
    Gen.serveIfsHead = ["req.Header.Get(\"Authorization\") != h.authToken", "!validUser"] ∧
    Gen.gateBeforeBus = true ∧
    Gen.keyValidIfs = ["len(fields) < 2", "fields[0] != \"Bearer\""] ∧
    Gen.keyValidFields = ["req.Header.Get(\"Authorization\")"] ∧ Gen.keyValidToken = ["fields[1]"] ∧
    Gen.validTokenReturns = ["false, \"\"", "false, \"\"", "false, \"\"",
      "(err == nil && token.Method.Alg() == \"HS256\" && token.Valid), userID"] ∧
    Gen.validTokenParse = ["str, k.keyFunc"] ∧
    Gen.newTokenClaims = ["ExpiresAt: time.Now().Add(168 * time.Hour).Unix()", "Id: userID"] ∧
    Gen.newTokenMethod = ["jwt.SigningMethodHS256, claims"] ∧
    Gen.userCheckIfs = ["err != nil", "err != nil", "err != nil", "err != nil", "len(ne) < 1", "u.Email == email && u.Pass == password",
      "err != nil", "p.Type == data.PointTypeTombstone && p.Value != 0", "deleted", "e.Up == \"root\"", "err != nil", "ok", "err != nil", "ok"] ∧
    Gen.userCheckQueries = ["\"SELECT down FROM edges WHERE type=?\", data.NodeTypeUser", "nil, \"SELECT * FROM edges WHERE down=?\", id"] ∧
    Gen.userCheckGetNodes = ["nil, \"all\", id, \"\", false"] ∧
    Gen.authUserIfs = ["err != nil", "len(msg.Data) <= 0", "err != nil", "!ok", "!ok", "err != nil || len(nodes) <= 0", "err != nil",
      "err != nil", "err != nil"] ∧
    Gen.authUserCheck = ["emailP.Text, passP.Text"] ∧
    Gen.listingGetNodes = ["nc, \"all\", userID, \"\", false", "nc, id, \"all\", \"\", false", "nc, \"all\", un.Parent, \"\", false"] ∧
    Gen.natsAuthOption = ["Authorization: o.Auth"] ∧
    Gen.serverNatsAuth = ["Auth: o.AuthToken", "AuthToken: o.AuthToken", "AuthToken: o.AuthToken"] ∧
    Gen.serverConnectToken = ["o.AuthToken"] :=
  ⟨rfl, rfl, rfl, rfl, rfl, rfl, rfl, rfl, rfl, rfl, rfl, rfl, rfl, rfl, rfl, rfl, rfl, rfl⟩

/-- non-vacuity: a reachable store with a user `u1` under the root device and a user `u2` (same credentials scheme) under
    a group whose edge to the root device is deleted: the first can log in, the second cannot -/
example :
    let isDel : Nat → Bool := fun v => v == 4607182418800017408
    let nt : Bytes → Int → Point := fun ty t => { type := nodeTypeT, text := ty, time := t }
    let st := run {} [
      .ep [82] [] [{ type := tombstoneT, time := 1 }, nt [100] 1],
      .ep [103] [82] [{ type := tombstoneT, time := 2, value := 4607182418800017408 }, nt [100] 2],
      .ep [117, 49] [82] [{ type := tombstoneT, time := 3 }, nt userT 3],
      .ep [117, 50] [103] [{ type := tombstoneT, time := 4 }, nt userT 4],
      .np [117, 49] [{ type := emailT, text := [97], time := 5 }, { type := passT, text := [120], time := 5 }],
      .np [117, 50] [{ type := emailT, text := [98], time := 6 }, { type := passT, text := [121], time := 6 }]]
    Inv st ∧ userCheck isDel st [97] [120] ≠ [] ∧ userCheck isDel st [98] [121] = [] ∧ userCheck isDel st [97] [121] = [] := by
  intro isDel nt st
  exact ⟨Inv.empty.run _, by decide +kernel⟩

end Siot.Auth
