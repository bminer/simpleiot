import Siot.Lemmas.Sync
import Siot.Lemmas.SyncPts
import Siot.Lemmas.SyncExchange
import Siot.Gen.Sync
import Siot.Lemmas.SyncLoop
import Siot.Lemmas.SyncTree
import Siot.Lemmas.SyncSendTree
import Siot.Lemmas.StoreRows
import Siot.Props.C01
import Siot.Gen.SyncLoop
/-
C02 — Linked instances converge on the shared device tree.

What is NOT proved: that the hash comparison is faithful (it is not: open findings — changes that cancel in the XOR
hash), nor trees that differ by nodes known elsewhere on the other side (mirrors, moved nodes) — partial.
-/
namespace Siot.Sync
open Siot Siot.Store Siot.Export

/-- **C02 (no accepted write is lost or reverted).** Start from any two reachable stores. After a
catch-up pass for any node — whatever the tree, the hashes, the wall clock readings, however deep the
recursion goes — on BOTH instances, for every node and every edge, each point that was there is still
there or has been replaced by a point of the same identity that is at least as new; and both stores
still satisfy the store invariants (one row per identity, consistent hashes, acyclic). -/
theorem c02_no_write_lost (wall : Int → Int) (fuel : Nat) (s : Pair) (ha : Inv s.a) (hb : Inv s.b) (parent id : Bytes) :
    let s' := syncNode wall fuel s parent id
    StLe s.a s'.a ∧ StLe s.b s'.b ∧ Inv s'.a ∧ Inv s'.b := by
  intro s'
  have h := (syncNode_writes wall fuel s parent id).fwd (.refl s ha hb)
  exact ⟨h.1.2, h.2.2, h.1.1, h.2.1⟩

theorem flatten_singletons {α} (l : List α) : (l.map (fun q => [q])).flatten = l := by
  rw [← List.flatMap_def, List.flatMap_singleton']

/-- **C02 (the exchange of points converges).** Let `L` and `U` be the rows of one node (or one edge) on
the downstream and the upstream instance: one row per identity each, stored (normalised) points, and two
different points of one identity never carrying the same time stamp. Write what `syncPts` selects for
each direction, point by point, through the store's merge. Then both sides hold exactly the newest point
of every identity found on either side — the same rows. -/
theorem c02_points_converge (L U : List Point) (hL : IdUnique L) (hU : IdUnique U)
    (hnL : ∀ p ∈ L, normPoint p = p) (hnU : ∀ p ∈ U, normPoint p = p) (hadm : Admissible (L ++ U)) (p : Point) :
    let L' := rowsAfter L ((syncPts L U).2.map (fun q => [q]))
    let U' := rowsAfter U ((syncPts L U).1.map (fun q => [q]))
    (p ∈ L' ↔ Newest (L ++ U) p) ∧ (p ∈ U' ↔ Newest (L ++ U) p) :=
  syncPts_converge L U hL hU hnL hnU hadm p

/-- **C02 (where the pass looks, the two stores agree afterwards).** The same on the store model itself:
when `syncNode` reaches a node that both instances hold (snapshots `nl`, `nu` of its two copies) and performs
the exchange, then afterwards the node's rows on the downstream store and on the upstream store are the same —
for every identity the newest point found on either side — provided the stored rows are well formed (what the
store writes: normalised, never NaN) and two different points of one identity never share a time stamp. -/
theorem c02_exchange_converges_on_stores (s : Pair) (ha : Inv s.a) (hb : Inv s.b) (nl nu : NE) (hid : nu.id = nl.id)
    (hl : nl.pts = ptsOf s.a nl.id) (hu : nu.pts = ptsOf s.b nl.id)
    (hsl : StoredRows (ptsOf s.a nl.id)) (hsu : StoredRows (ptsOf s.b nl.id))
    (hadm : Admissible (ptsOf s.a nl.id ++ ptsOf s.b nl.id)) (p : Point) :
    (p ∈ ptsOf (syncExchange s nl nu).a nl.id ↔ Newest (ptsOf s.a nl.id ++ ptsOf s.b nl.id) p) ∧
    (p ∈ ptsOf (syncExchange s nl nu).b nl.id ↔ Newest (ptsOf s.a nl.id ++ ptsOf s.b nl.id) p) := by
  have ha := ha.npu nl.id
  have hb := hb.npu nl.id
  obtain ⟨hdown, hup⟩ := syncExchange_node_rows s hid hl hu hsl hsu
  rw [hdown, hup]
  exact c02_points_converge _ _ ha hb (fun q hq => (hsl q hq).1) (fun q hq => (hsu q hq).1) hadm p

/-- a pass leaves equal hashes alone: where the two copies of a node carry the same hash, nothing is
    written at all (the pass relies on the hash to find differences — see the open findings) -/
theorem c02_equal_hash_is_skipped (wall : Int → Int) (fuel : Nat) (s : Pair) (parent id : Bytes) (nl nu : NE) (rl ru : List NE)
    (h1 : getNodes s.a (if parent = rootS then allS else parent) id true = nl :: rl)
    (h2 : getNodes s.b (if parent = rootS then allS else parent) id true = nu :: ru)
    (hd : deletedUpstream s nl (nu :: ru) = false)
    (hh : cmpHash (nl.id == s.a.root) nl = cmpHash (nl.id == s.a.root) nu) :
    syncNode wall (fuel + 1) s parent id = s := by
  simp only [syncNode, h1, h2, hd, Bool.false_eq_true, if_false, hh, if_true]

/-- non-vacuity of the exchange theorem: one identity newer downstream, one newer upstream, one on each side only -/
example :
    let L : List Point := [{ type := [118], key := [48], time := 5, value := 1 }, { type := [100], key := [48], time := 2 }, { type := [108], key := [48], time := 1 }]
    let U : List Point := [{ type := [118], key := [48], time := 3, value := 2 }, { type := [100], key := [48], time := 7, text := [120] }, { type := [116], key := [48], time := 4 }]
    (syncPts L U).1.map (·.type) = [[118], [108]] ∧ (syncPts L U).2.map (·.type) = [[100], [116]] := by decide +kernel

/-- **C02 (an agreed node is left alone).** When the downstream and the upstream copy of a node (or edge) hold the same
points — the state `c02_points_converge` establishes — the exchange selects nothing for either direction: a pass over
converged copies writes nothing, on either side, so agreement once reached is kept by every later pass (together with
`c02_no_write_lost`: only a new write can move it). -/
theorem c02_agreed_node_is_quiet (L U : List Point) (hL : IdUnique L) (hU : IdUnique U) (h : ∀ p, p ∈ L ↔ p ∈ U) :
    syncPts L U = ([], []) := by
  refine Prod.ext (List.eq_nil_iff_forall_not_mem.mpr fun p hp => ?_) (List.eq_nil_iff_forall_not_mem.mpr fun q hq => ?_)
  · obtain ⟨hpL, hN⟩ := (mem_toUp hU p).mp hp
    exact Int.lt_irrefl _ (hN p ((h p).mp hpL) (sameId_refl p))
  · obtain ⟨hqU, hN⟩ := (mem_toDown hL hU q).mp hq
    exact Int.lt_irrefl _ (hN q ((h q).mpr hqU) (sameId_refl q))

/-- **C02 (the pass is local).** Let both stores hold the node `n` under the parent `p` with the same descendants
(`Ctx`: the edges of either store form a forest — no mirrors, no cycle —, every node below `n` has the same child edges on
both sides, none of them is a root node or carries one of the reserved names). Then a catch-up pass for `n`, however
deep it goes, inserts no edge on either side, keeps both stores well formed and only ever moves points forward
(`PFwd`), and changes nothing either store holds for a node outside the subtree of `n` — neither its points nor the
points of the edge into it. -/
theorem c02_pass_is_local (wall : Int → Int) (KA KB : List Sh) (rootA rootB : Bytes) (fuel : Nat) (s : Pair) (p n ta tb : Bytes)
    (hg : Good KA KB rootA rootB s) (hc : Ctx KA KB rootA rootB n) (hka : (p, n, ta) ∈ KA) (hkb : (p, n, tb) ∈ KB)
    (hp1 : p ≠ rootS) (hp2 : p ≠ allS) (hp3 : p ≠ []) :
    Good KA KB rootA rootB (syncNode wall fuel s p n) ∧ PFwd s (syncNode wall fuel s p n) ∧
    ∀ m, ¬ Below KA n m → Same s.a (syncNode wall fuel s p n).a m ∧ Same s.b (syncNode wall fuel s p n).b m := by
  have h := syncNode_local wall fuel hg hc hka hkb hp1 hp2 hp3
  exact ⟨hg.of_local h, hg.fwd h, fun m hm => ⟨h.1.same m hm, h.2.same m hm⟩⟩

/-- **C02 (one pass makes whole subtrees agree — exactly as far as the hash comparison is faithful).** In the setting
of `c02_pass_is_local`, with stored rows and distinct time stamps per identity below `n` (`RowsOkAt`, for node points and
edge points), assume that on the states that can follow `s` (every point only moved forward) two copies of an edge
below `n` never carry the same hash unless their subtrees hold the same points (`Faithful`: the purpose of the Merkle
hash; it FAILS when changes cancel in the XOR — the two open findings — and for CRC collisions). Then after ONE pass
for `n` the two stores hold the same points for `n`, for every node below it and for every edge between them
(`AgreeAt`), down to the depth the recursion budget reaches (the budget in use is 2^|edges|): the newest point of every
identity written on either side, nothing lost (`c02_no_write_lost`). So the only way a difference survives a pass over
equal trees is an equal-hash comparison that hides it. -/
theorem c02_pass_converges_where_hash_is_faithful (wall : Int → Int) (KA KB : List Sh) (rootA rootB : Bytes) (fuel : Nat) (s : Pair)
    (p n ta tb : Bytes) (hg : Good KA KB rootA rootB s) (hc : Ctx KA KB rootA rootB n) (hka : (p, n, ta) ∈ KA) (hkb : (p, n, tb) ∈ KB)
    (hp1 : p ≠ rootS) (hp2 : p ≠ allS) (hp3 : p ≠ [])
    (hrows : ∀ m, Below KA n m → RowsOkAt KA s m) (hfaith : ∀ t, PFwd s t → Faithful KA n t) :
    ∀ d m, d < fuel → BelowD KA n d m → AgreeAt KA (syncNode wall fuel s p n) m := by
  induction fuel generalizing s p n ta tb with
  | zero => exact fun _ _ hd _ => absurd hd (Nat.not_lt_zero _)
  | succ fuel ih =>
    intro d m hdlt hbd
    obtain ⟨hn1, hn2, hn3, hn4, hn5⟩ := hc.names n (.refl KA n)
    obtain ⟨ea, eb, hcp, hstep⟩ := syncNode_step wall fuel hg hka hkb hp1 hp2 hn2 hn4
    rw [hstep]
    by_cases hh : ea.hash = eb.hash
    · rw [if_pos hh]
      exact (hfaith s (.refl s hg.ia hg.ib)).copies hcp (.refl KA n) hh ⟨d, hbd⟩
    · rw [if_neg hh]
      -- s —exchange(n)→ s1 —children before e→ t —`syncNode … t n e.down`, or nothing→ · —children after e→ fin.
      -- touched: only n | nothing at or below e | only at or below e | nothing at or below e; s1 → fin touches only strictly below n.
      have hagn := exchange_agreeAt hcp hg hc.ta hp3 hn4 hn5 (hrows n (.refl KA n))
      have hx : Local (· = n) s (syncExchange s (neOf s.a ea) (neOf s.b eb)) := exchange_local hcp hp3
      generalize syncExchange s (neOf s.a ea) (neOf s.b eb) = s1 at hx hagn ⊢
      have hg1 : Good KA KB rootA rootB s1 := hg.of_local hx
      obtain ⟨hout, hkids⟩ := syncChildren_local wall (syncNode wall fuel) hg1 hc (neOf s.a ea) (neOf s.b eb) hcp.da hcp.db
        fun t c ta tb hgt ha hb => syncNode_local wall fuel hgt (hc.sub c (.step ha (.refl KA n))) ha hb hn1 hn2 hn3
      generalize syncChildren wall (syncNode wall fuel) s1 (neOf s.a ea) (neOf s.b eb) = fin at hout hkids ⊢
      have hout : Local (fun m => Below KA n m ∧ m ≠ n) s1 fin := hout
      cases d with
      | zero =>
        -- `m` is `n`: agreed after the exchange, not touched by the children
        cases hbd
        exact agreeAt_of_local hout (fun h => h.2 rfl) hagn
      | succ d =>
        -- `m` lies below a child `e` of `n`
        obtain ⟨k, hk, hk1, hrest⟩ := hbd.top
        obtain ⟨e, he, heu, hed, _⟩ := mem_shapes (hg1.sa ▸ hk)
        rw [← hed] at hrest
        obtain ⟨e', t, hce, ht, hfin⟩ := hkids e he (heu.trans hk1)
        have hbel : Below KA n e.down := .step (hce.ka hg1) (.refl KA n)
        have hbm : Below KA e.down m := ⟨d, hrest⟩
        have hst : Local (fun m => ¬ Below KA e.down m) s t := (hx.outside_child hc.ta (hce.ka hg1)).trans ht
        suffices AgreeAt KA (if e.hash ≠ e'.hash then syncNode wall fuel t n e.down else t) m from
          agreeAt_of_local hfin (fun h => h hbm) this
        by_cases hne : e.hash ≠ e'.hash
        · -- the hashes differ: the pass descends, from `t`, where the subtree of `e` is as at the start
          rw [if_pos hne]
          have hrows' : ∀ m2, Below KA e.down m2 → RowsOkAt KA t m2 := fun m2 hm2 =>
            rowsOkAt_of_local hst (fun h => h hm2) (hrows m2 (hbel.trans hm2))
          have hfaith' : ∀ t', PFwd t t' → Faithful KA e.down t' := fun t' ht' =>
            (hfaith t' ((hg.fwd hst).trans ht')).sub hbel
          exact ih t n e.down e.typ e'.typ (hg1.of_local ht) (hc.sub _ hbel) (hce.ka hg1) (hce.kb hg1) hn1 hn2 hn3 hrows' hfaith'
            d m (Nat.lt_of_succ_lt_succ hdlt) hrest
        · -- the hashes are equal: faithfulness in `s1`, carried to `t` below `e`
          rw [if_neg hne]
          exact agreeAt_of_local ht (fun h => h hbm) ((hfaith s1 (hg.fwd hx)).copies hce hbel (Decidable.not_not.mp hne) hbm)

/-- … and with a recursion budget larger than the number of local edges — the Go recursion has no budget at all, the
    correspondence driver runs the model with 2^(|A| + |B|) + 2 — the depth premise disappears: a forest of |KA| edges has
    no path longer than |KA| (`belowD_depth`), so the agreement holds for EVERY node below `n`. -/
theorem c02_pass_converges_whole_subtree (wall : Int → Int) (KA KB : List Sh) (rootA rootB : Bytes) (fuel : Nat) (s : Pair)
    (p n ta tb : Bytes) (hg : Good KA KB rootA rootB s) (hc : Ctx KA KB rootA rootB n) (hka : (p, n, ta) ∈ KA) (hkb : (p, n, tb) ∈ KB)
    (hp1 : p ≠ rootS) (hp2 : p ≠ allS) (hp3 : p ≠ [])
    (hrows : ∀ m, Below KA n m → RowsOkAt KA s m) (hfaith : ∀ t, PFwd s t → Faithful KA n t) (hfuel : KA.length < fuel) :
    ∀ m, Below KA n m → AgreeAt KA (syncNode wall fuel s p n) m := by
  intro m ⟨d, hd⟩
  have := belowD_depth KA.length KA rfl hc.ta n m d hd
  exact c02_pass_converges_where_hash_is_faithful wall KA KB rootA rootB fuel s p n ta tb hg hc hka hkb hp1 hp2 hp3 hrows hfaith d m
    (Nat.lt_of_le_of_lt this hfuel) hd

/-- non-vacuity of the tree hypotheses: a node `a` under `R` with two children, one of which has a child, the same on
    both sides (the upstream has one more node elsewhere) -/
example :
    let KA : List Sh := [(rootS, [82], [100]), ([82], [97], [100]), ([97], [98], [100]), ([97], [99], [100]), ([98], [101], [100])]
    let KB : List Sh := KA ++ [([82], [120], [100])]
    Ctx KA KB [82] [120, 120] [97] := by
  intro KA KB
  -- a rank: the position in an order that lists parents first and the subtree of [97] last
  let r : Bytes → Nat := fun b => [rootS, [82], [120], [97], [98], [99], [101]].idxOf b
  have hA : ∀ k ∈ KA, r k.1 < r k.2.1 := by decide +kernel
  -- a node below [97] is the lower end of an edge and has at least the rank of [97]: these edges are checked one by one
  have hsub : ∀ m, Below KA [97] m →
      KA.filter (fun k => k.1 == m) = KB.filter (fun k => k.1 == m) ∧
        m ≠ rootS ∧ m ≠ allS ∧ m ≠ [] ∧ m ≠ [82] ∧ m ≠ [120, 120] := by
    intro m hm
    have hr := hm.reach.rank_le hA
    rcases hm.inv with rfl | ⟨k, hk, rfl, _⟩
    · decide +kernel
    · exact (by decide +kernel : ∀ k ∈ KA, r [97] ≤ r k.2.1 →
        KA.filter (fun j => j.1 == k.2.1) = KB.filter (fun j => j.1 == k.2.1) ∧
          k.2.1 ≠ rootS ∧ k.2.1 ≠ allS ∧ k.2.1 ≠ [] ∧ k.2.1 ≠ [82] ∧ k.2.1 ≠ [120, 120]) k hk hr
  exact ⟨⟨⟨r, hA⟩, by decide +kernel⟩, ⟨⟨r, by decide +kernel⟩, by decide +kernel⟩,
    fun m hm => (hsub m hm).1, fun m hm => (hsub m hm).2⟩

/-- **C02 (real-time forwarding: the order of arrival does not matter).** While the link is up every write accepted on one
side is forwarded to the other (`c02_loop_forward_iff_connected`), where it is applied by the same store request as a
local write. Take one node (or one edge): let `arrA` be the batches in the order, grouping and multiplicity in which they
reached the store of A — its own writes interleaved with the forwarded ones, duplicates and re-deliveries included — and
`arrB` the same for B. If every point that reached one side also reached the other (`hsame`), the two stores hold
exactly the same rows for that node, and each row is the newest point delivered for its identity — whatever the
interleaving on either side. (This is C01's order-independence read for two instances; the premise "also reached the
other" is what forwarding plus the catch-up pass after an outage provide, and is not proved here for the NATS layer.) -/
theorem c02_forwarding_order_irrelevant (arrA arrB : List (List Point))
    (hsame : ∀ p, p ∈ delivered arrA ↔ p ∈ delivered arrB) (hadm : Admissible (delivered arrA)) :
    (∀ p, p ∈ rowsAfter [] arrA ↔ p ∈ rowsAfter [] arrB) ∧ ∀ p, p ∈ rowsAfter [] arrA ↔ Newest (delivered arrA) p :=
  ⟨c01_order_batching_irrelevant arrA arrB hsame hadm, c01_read_is_newest arrA hadm⟩

/-- non-vacuity: two writes of one identity and one of another, arriving one by one on A, in the other order and in one
    batch — with a re-delivery — on B -/
example :
    let p1 : Point := { type := [1], key := zeroKey, time := 5, value := 1 }
    let p2 : Point := { type := [1], key := zeroKey, time := 7, value := 2 }
    let q : Point := { type := [2], key := zeroKey, time := 6, value := 3 }
    (∀ p, p ∈ delivered [[p1], [q], [p2]] ↔ p ∈ delivered [[p2, q, p1], [p1]]) ∧ Admissible (delivered [[p1], [q], [p2]]) := by
  intro p1 p2 q
  have h1 : ∀ x ∈ delivered [[p1], [q], [p2]], x ∈ delivered [[p2, q, p1], [p1]] := by decide
  have h2 : ∀ x ∈ delivered [[p2, q, p1], [p1]], x ∈ delivered [[p1], [q], [p2]] := by decide
  exact ⟨fun p => ⟨h1 p, h2 p⟩, by unfold Admissible; decide⟩

/-- **C02 (the "stored rows" premises hold on every store).** The convergence theorems above take as premises that the
rows of the two stores are stored rows (`StoredRows`: key never empty, value neither -0 nor NaN), one row per identity
(`IdUnique`), and that the node type is never an edge row. These are not assumptions about the instances: from the empty
store, after ANY sequence of write requests (accepted or refused), every node and every edge of the store satisfies
them — the store normalises what it writes and refuses NaN (`rowInv_run`), and keeps one row per identity
(`c03_reachable`). What remains a genuine premise of those theorems is the distinctness of time stamps per identity
(`Admissible`, the property's own "distinct timestamps per identity") and the shape of the trees. -/
theorem c02_stored_rows_on_every_store (ops : List WOp) :
    (∀ id, StoredRows (ptsOf (run {} ops) id) ∧ IdUnique (ptsOf (run {} ops) id)) ∧
    (∀ u d, StoredRows (eptsOf (run {} ops) u d) ∧ IdUnique (eptsOf (run {} ops) u d) ∧
      ∀ p ∈ eptsOf (run {} ops) u d, p.type ≠ nodeTypeT) := by
  have hr := rowInv_run rowInv_empty ops
  have hi := Inv.run Inv.empty ops
  exact ⟨fun id => ⟨storedRows_pts hr id, hi.npu id⟩,
    fun u d => ⟨storedRows_epts hr u d, hi.epu (u, d), epts_no_nodeType hr u d⟩⟩

/-- **C02 (a subtree the upstream instance does not have yet arrives whole).** The catch-up pass meets a local node that
upstream lacks — the node itself (`syncNode`, nothing returned upstream) or a child (`syncChildren`, no upstream child
of that id) — and calls `sendNodesRemote` for it: `SendNode` for the node, then, recursively, for every child the local
store lists as not deleted. Let the local store be a forest whose live subtree below `e` consists of stored rows under
ordinary ids (`SrcOk`; nothing is asked of the rest of the store), `e` the local edge sent below `P` (its own parent, or
the upstream root for a root device), `P` not inside the subtree, and let the upstream store know none of the ids of the
live subtree below `e` (`Fresh`: no edge, no point). Then with the budget in use (2^|edges| + 1, which `belowD_depth`
shows to exceed every depth of a forest): nothing fails, the local store is untouched, EVERY node of the live subtree —
at any depth — holds upstream exactly the points it holds locally, every edge of it exactly the local edge points (plus
the mark "not deleted", stamped with a reading of the upstream clock, where the local edge carries no deletion mark),
and nothing else upstream changes. So after the transfer the two copies of the subtree agree point for point; together
with `c02_pass_converges_where_hash_is_faithful` (equal trees) this covers both cases the pass distinguishes. Not
covered: ids already known upstream somewhere else (mirrors, moved nodes). -/
theorem c02_missing_subtree_is_sent (wall : Int → Int) (s : Pair) (e : Edge) (hs : SrcOk s.a e.down) (P : Bytes) (he : e ∈ s.a.edges)
    (hP1 : P ≠ []) (hP2 : P ≠ noneS) (hP3 : P ≠ rootS) (hPb : ¬ Below (liveK s.a) e.down P)
    (hfresh : ∀ m, Below (liveK s.a) e.down m → Fresh s.b m) :
    (toRemote wall s { neOf s.a e with parent := P }).a = s.a ∧
    (∀ m, Below (liveK s.a) e.down m → ptsOf (toRemote wall s { neOf s.a e with parent := P }).b m = ptsOf s.a m) ∧
    (∃ k, eptsOf (toRemote wall s { neOf s.a e with parent := P }).b P e.down = sentE (eptsOf s.a e.up e.down) (wall k)) ∧
    (∀ c ∈ liveEdges s.a, Below (liveK s.a) e.down c.up →
      ∃ k, eptsOf (toRemote wall s { neOf s.a e with parent := P }).b c.up c.down = sentE (eptsOf s.a c.up c.down) (wall k)) ∧
    (∀ y, ¬ Below (liveK s.a) e.down y → Same s.b (toRemote wall s { neOf s.a e with parent := P }).b y) := by
  have ok := sendList_ok hs he ⟨hP1, hP2, hP3⟩ hPb
  obtain ⟨r, c, hr, hrows, hsame⟩ := foldl_sendOne_unknown wall _ s.b s.clk
    (fun x hx => ⟨ok.sendable x hx, hfresh _ (ok.below x hx)⟩) ok.order
  -- the local store: `toRemote` never writes it; the upstream store: the fold over the list, that is `r`
  rw [toRemote_a, toRemote_b, hr]
  refine ⟨rfl, fun m hm => ?_, (hrows _ ok.top).2, fun c hc hcu => (hrows _ (ok.reach c hc hcu)).2,
    fun y hy => hsame y fun x hx h => hy (h ▸ ok.below x hx)⟩
  -- a node of the live subtree is its top or the lower end of a live edge below it
  rcases hm.inv with rfl | ⟨k, hk, rfl, hk1⟩
  · exact (hrows _ ok.top).1
  · obtain ⟨c, hc, rfl⟩ := mem_liveK hk
    exact (hrows _ (ok.reach c hc hk1)).1

/-- **C02 (a subtree missing DOWNSTREAM arrives one level per pass — as the code is).** `sendNodesLocal` sends the
upstream node to the local store and then lists the children of that id in the LOCAL store (`GetNodes(up.nc, …)`, pinned
by `gen_sync_pinned`), not upstream. For a node the local store has nothing below (it is being created there) the list
is empty, so the call is `SendNode` of that one node and nothing else: the children upstream are not looked at in this
pass. They arrive in the following passes — the node now exists on both sides with different hashes, `syncChildren`
descends and finds its children missing locally — one level per pass, whereas a subtree missing upstream arrives whole
(`c02_missing_subtree_is_sent`). The instances still converge (every pass adds a level, and passes keep coming while the
link is up: `c02_loop_catch_up_while_connected`), so this is recorded as an observation about latency, not as a
violation; the correspondence run starts with a corpus case (`harness/corpus/C02.cases`: three levels created upstream,
three passes) on which the model, which has this behaviour, must reproduce the implementation's dumps. -/
theorem c02_missing_downstream_arrives_one_level_per_pass (wall : Int → Int) (s : Pair) (n : NE) (hn2 : n.id ≠ rootS) (hn3 : n.id ≠ allS)
    (h : ∀ e ∈ s.a.edges, e.up ≠ n.id) :
    toLocal wall s n = { s with a := sendNodeState s.a n (wall s.clk), clk := s.clk + 1 } := by
  unfold toLocal sendNodes
  rw [sendNodesAux]
  cases hsn : sendNode s.a n (wall s.clk) with
  | none => rfl
  | some st1 =>
    dsimp only
    rw [getNodes_no_kids s.a n.id hn2 hn3 h, sendNode_some hsn]
    rfl

/-- … and the transfer leaves the upstream store a store: edges still form a ranked graph with one row per identity, and every
    stored hash — of the new edges and of everything above them — is the Merkle hash of the content (`Inv`, the invariant of C03),
    with no point of any node or edge moved backwards (`StLe`). -/
theorem c02_missing_subtree_keeps_store_invariant (wall : Int → Int) (s : Pair) (n : NE) (ha : Inv s.a) (hb : Inv s.b) :
    Inv (toRemote wall s n).b ∧ StLe s.b (toRemote wall s n).b :=
  ((toRemote_writes wall s n).fwd (.refl s ha hb)).2

/-- **C02 (the pass itself, for a node upstream lacks).** `syncNode(parent, id)` for a local node — not the root device —
that the upstream store has no edge into IS the transfer of `c02_missing_subtree_is_sent` (for any positive budget): the pass
finds the node locally, finds nothing upstream, and calls `sendNodesRemote`. With the premises of that theorem (here with
`P` the node's own parent) the conclusions hold for the state the pass returns: the whole live subtree is upstream with the
local rows, the local store untouched, nothing else changed. -/
theorem c02_pass_sends_a_node_missing_upstream (wall : Int → Int) (fuel : Nat) (s : Pair) (e : Edge) (hs : SrcOk s.a e.down) (he : e ∈ s.a.edges)
    (hp1 : e.up ≠ rootS) (hp2 : e.up ≠ allS) (hP1 : e.up ≠ []) (hP2 : e.up ≠ noneS) (hPb : ¬ Below (liveK s.a) e.down e.up)
    (hfresh : ∀ m, Below (liveK s.a) e.down m → Fresh s.b m) :
    (syncNode wall (fuel + 1) s e.up e.down).a = s.a ∧
    (∀ m, Below (liveK s.a) e.down m → ptsOf (syncNode wall (fuel + 1) s e.up e.down).b m = ptsOf s.a m) ∧
    (∃ k, eptsOf (syncNode wall (fuel + 1) s e.up e.down).b e.up e.down = sentE (eptsOf s.a e.up e.down) (wall k)) ∧
    (∀ c ∈ liveEdges s.a, Below (liveK s.a) e.down c.up →
      ∃ k, eptsOf (syncNode wall (fuel + 1) s e.up e.down).b c.up c.down = sentE (eptsOf s.a c.up c.down) (wall k)) ∧
    (∀ y, ¬ Below (liveK s.a) e.down y → Same s.b (syncNode wall (fuel + 1) s e.up e.down).b y) := by
  rw [syncNode_missing wall fuel s e hs he hp1 hp2 (hfresh e.down (Below.refl _ _))]
  exact c02_missing_subtree_is_sent wall s e hs e.up he hP1 hP2 hp1 hPb hfresh

/-- … and what does arrive in that pass is right: the node exists locally afterwards, below the same parent and with the same
    type, with exactly the upstream points and edge points (plus the mark "not deleted, now" when the upstream edge carries no
    deletion mark); no other row of the local store changes and the upstream store is not touched. Premises: the upstream
    rows are stored rows with time stamps (`Rows`, `c02_stored_rows_on_every_store`), the local store knows nothing of the id
    (`Fresh`), ordinary ids. -/
theorem c02_missing_downstream_node_is_copied (wall : Int → Int) (s : Pair) (n : NE) (hn2 : n.id ≠ rootS) (hn3 : n.id ≠ allS)
    (hP : Rows n.pts) (hE : Rows n.epts) (hnt : ∀ p ∈ n.epts, p.type ≠ nodeTypeT)
    (hf : Fresh s.a n.id) (hid : n.id ≠ [])
    (hp : n.parent ≠ [] ∧ n.parent ≠ noneS ∧ n.parent ≠ rootS ∧ n.parent ≠ n.id) (ht : n.typ ≠ []) :
    (toLocal wall s n).b = s.b ∧
    shapes (toLocal wall s n).a = shapes s.a ++ [(n.parent, n.id, n.typ)] ∧
    (∀ y, ptsOf (toLocal wall s n).a y = if y = n.id then n.pts else ptsOf s.a y) ∧
    (∀ u d, eptsOf (toLocal wall s n).a u d = if (u, d) = (n.parent, n.id) then sentE n.epts (wall s.clk) else eptsOf s.a u d) := by
  obtain ⟨st', h1, h2, h3, h4, _⟩ := sendNode_transfer s.a n (wall s.clk) ⟨hP, hE, hnt, hid, hp, ht⟩ hf
  rw [c02_missing_downstream_arrives_one_level_per_pass wall s n hn2 hn3 (fun e he => (hf.edges e he).1), sendNode_some h1]
  exact ⟨rfl, h2, h3, h4⟩

/-- the child case of `syncChildren` is the instance `P = e.up` (the record sent is the one `getNodes` returned) -/
example (s : Pair) (e : Edge) : ({ neOf s.a e with parent := e.up } : NE) = neOf s.a e := rfl

/-- non-vacuity: a local store R → a → b (a point on each node, a deletion mark on each edge) and an empty upstream store
    with root "x"; the subtree of `a` is sent below "x" -/
example :
    let tomb : Point := { type := tombstoneT, key := zeroKey, time := 3 }
    let src : St := {
      nodePts := [([97], { type := [1], key := zeroKey, time := 5, value := 1 }), ([98], { type := [1], key := zeroKey, time := 6, value := 2 })]
      edges := [⟨[82], [97], [100], 0⟩, ⟨[97], [98], [100], 0⟩]
      edgePts := [(([82], [97]), tomb), (([97], [98]), tomb)]
      root := [82] }
    let dst : St := { root := [120] }
    SrcOk src [97] ∧ (⟨[82], [97], [100], 0⟩ : Edge) ∈ src.edges ∧ ¬ Below (liveK src) [97] [120] ∧
      ∀ m, Below (liveK src) [97] m → Fresh dst m := by
  intro tomb src dst
  have hne : ∀ m, Below (liveK src) [97] m → m ≠ [120] := fun m hm => by
    rcases hm.inv with rfl | ⟨k, hk, rfl, _⟩
    · decide
    · exact (by decide : ∀ k ∈ liveK src, k.2.1 ≠ [120]) k hk
  refine ⟨⟨⟨⟨fun b => [[82], [97], [98]].idxOf b, by decide⟩, by decide⟩, fun f hf _ => ?_, fun f hf _ => ?_⟩, by decide,
    fun h => hne _ h rfl, fun m hm => ⟨(fun _ h => nomatch h), rfl, fun _ => rfl, hne m hm⟩⟩
  · have : f = ⟨[82], [97], [100], 0⟩ ∨ f = ⟨[97], [98], [100], 0⟩ := by simpa [src] using hf
    rcases this with rfl | rfl <;>
      exact ⟨⟨by unfold StoredRows; decide, by unfold IdUnique; decide, by decide⟩,
        ⟨by unfold StoredRows; decide, by unfold IdUnique; decide, by decide⟩, by decide, by decide⟩
  · exact (by decide : ∀ f ∈ src.edges, f.down ≠ [] ∧ f.down ≠ rootS ∧ f.down ≠ allS ∧ f.down ≠ noneS) f hf

/-- tie A: syncNode / sendNodesRemote / sendNodesLocal have the shape the model transcribes (after the repair:
children are listed with deleted ones included; the undelete step is for the local root device only). -/
theorem gen_sync_pinned :
    Gen.syncNodeGetNodes = ["up.nc, parent, id, \"\", true", "up.ncRemote, parent, id, \"\", true",
      "up.ncLocal, nodeLocal.ID, \"all\", \"\", true", "up.ncRemote, nodeUp.ID, \"all\", \"\", true"] ∧
    Gen.syncNodeRec = ["nodeLocal.ID, child.ID"] ∧
    Gen.syncNodeSendRemote = ["nodeLocal", "child"] ∧ Gen.syncNodeSendLocal = ["upChild"] ∧
    Gen.syncNodePointSends = ["up.ncRemote, nodeUp.ID, p, true", "up.nc, nodeLocal.ID, pUp, true", "up.ncRemote, nodeUp.ID, p, true",
      "up.nc, nodeLocal.ID, pUp, true"] ∧
    Gen.syncNodeEdgePointSends = ["up.ncRemote, nodeUp.ID, nodeUp.Parent, pTS, true", "up.ncRemote, nodeUp.ID, nodeUp.Parent, p, true",
      "up.nc, nodeLocal.ID, nodeLocal.Parent, pUp, true", "up.ncRemote, nodeUp.ID, nodeUp.Parent, p, true",
      "up.nc, nodeLocal.ID, nodeLocal.Parent, pUp, true"] ∧
    Gen.syncNodeRanges = ["points", "nodeUps", "nodeUp.EdgePoints", "nodeLocal.EdgePoints", "nodeLocal.Points", "nodeUp.Points", "nodeUp.Points",
      "nodeLocal.EdgePoints", "nodeUp.EdgePoints", "nodeUp.EdgePoints", "children", "upChildren", "upChildren"] ∧
    Gen.sendRemoteCalls = ["up.ncRemote, node, up.config.ID", "up.nc, node.ID, \"all\", \"\", false"] ∧
    Gen.sendLocalCalls = ["up.ncLocal, node, up.config.ID", "up.nc, node.ID, \"all\", \"\", false"] ∧
    Gen.sendRemoteIfs = ["node.Parent == \"root\"", "err != nil", "err != nil", "err != nil"] ∧
    Gen.syncNodeIfs = ["up.rootRemote.ID == \"\"", "err != nil", "up.subRemoteUp == nil", "err != nil", "parent == \"root\"", "err != nil",
      "len(nodeLocals) == 0", "upErr != nil", "upErr != data.ErrDocumentNotFound", "nodeFound", "!ts",
      "nodeDeleted && nodeLocal.ID == up.rootLocal.ID", "err != nil", "!nodeFound", "err != nil", "err != nil",
      "nodeLocal.ID == up.rootLocal.ID", "nodeUp.Hash == nodeLocal.Hash", "nodeLocal.ID == up.rootLocal.ID", "err != nil",
      "p.IsMatch(pUp.Type, pUp.Key)", "p.Time.After(pUp.Time)", "err != nil", "p.Time.Before(pUp.Time)", "err != nil", "!found", "err != nil",
      "!ok", "err != nil", "nodeLocal.ID != up.rootLocal.ID", "p.IsMatch(pUp.Type, pUp.Key)", "p.Time.After(pUp.Time)", "err != nil",
      "p.Time.Before(pUp.Time)", "err != nil", "!found", "err != nil", "!ok", "err != nil", "err != nil", "err != nil",
      "child.ID == upChild.ID", "child.Hash != upChild.Hash", "err != nil", "!found", "err != nil", "err != nil", "!ok", "err != nil", "err != nil"] :=
  ⟨rfl, rfl, rfl, rfl, rfl, rfl, rfl, rfl, rfl, rfl, rfl⟩

end Siot.Sync

namespace Siot.SyncLoop

/-- **C02 (catch-up runs at every connection and periodically while the link is up).** Whatever the sequence of link
reports (connected / disconnected / reconnected), timer firings, local writes and configuration changes since the
client started: (1) the catch-up ticker runs, with the configured period (at least one second), exactly when the last
link report said "up" — so passes keep coming for as long as the link is up, and none are attempted while it is down;
(2) every report "up" is answered at once with a catch-up pass (this is what repairs the state after an outage), and
every ticker firing is a pass. -/
theorem c02_loop_catch_up_while_connected (disabled : Bool) (period : Nat) (evs : List Ev) :
    let s := (run (init disabled period) evs).1
    s.ticker = (if lastConn evs false then some s.period else none) ∧ 1 ≤ s.period ∧
    (∀ subOk, Act.pass ∈ (step s (.conn true subOk)).2) ∧ (step s .tick).2 = [Act.pass] := by
  intro s
  have hinv := inv_run evs _ (inv_init disabled period)
  have hc : s.connected = lastConn evs false := connected_run evs (init disabled period)
  refine ⟨by rw [← hc]; exact hinv.ticker, hinv.period, ?_, rfl⟩
  intro subOk
  show Act.pass ∈ (if s.initialSub = true then _ else _ : St × List Act).2
  split <;> exact List.mem_cons_self ..

/-- **C02 (local writes are forwarded exactly while the link is up).** After any history, a local node-point or
edge-point message is sent on to the upstream exactly when the last link report said "up"; what is written while
the link is down is left to the next catch-up pass (`c02_loop_catch_up_while_connected`). -/
theorem c02_loop_forward_iff_connected (disabled : Bool) (period : Nat) (evs : List Ev) :
    let s := (run (init disabled period) evs).1
    (step s .localNode).2 = (if lastConn evs false then [Act.fwdNode] else []) ∧
    (step s .localEdge).2 = (if lastConn evs false then [Act.fwdEdge] else []) := by
  intro s
  have hc : s.connected = lastConn evs false := connected_run evs (init disabled period)
  exact ⟨by rw [← hc]; rfl, by rw [← hc]; rfl⟩

/-- **C02 (a reconnection is always pending).** After any history, a client that is not disabled has an upstream
connection object (the NATS library reconnects it by itself and reports through the callbacks) or an armed connect
timer: a failed dial re-arms the timer (30 s), a change of uri / token / disabled flag drops the connection and re-arms
it (10 ms). And after such a change the subscriptions to the upstream are set up again at the next connection. -/
theorem c02_loop_redial_pending (disabled : Bool) (period : Nat) (evs : List Ev) :
    let s := (run (init disabled period) evs).1
    (s.disabled = true ∨ s.remote = true ∨ s.connectTimer.isSome = true) ∧
    (∀ d subOk, Act.subInitial ∈ (step (step s (.cfgRestart d)).1 (.conn true subOk)).2) := by
  intro s
  exact ⟨(inv_run evs _ (inv_init disabled period)).redial, fun d subOk => .tail _ (.head _)⟩

/-- non-vacuity: connect, lose the link, get it back, while writes arrive -/
example :
    (run (init false 0) [.connectTimer true, .conn true true, .localNode, .conn false false, .localNode, .tick, .conn true true, .localEdge]).2 =
      [.dial, .pass, .subInitial, .fwdNode, .pass, .pass, .fwdEdge] := by decide

/-- tie A: the select loop of Run, `connect` and `disconnect` have the shape the model transcribes -/
theorem gen_syncloop_pinned :
    Gen.syncRunSelect = ["<-up.stop => ", "<-connectTimer.C => connect,connectTimer.Reset(30 * time.Second)", "<-syncTicker.C => syncNode",
      "conn := <-up.chConnected => syncTicker.Reset(time.Duration(up.config.Period) * time.Second),syncNode,subscribeRemoteNode,syncTicker.Stop",
      "pts := <-chLocalNodePoints => SendNodePoints", "pts := <-chLocalEdgePoints => SendEdgePoints",
      "pts := <-up.newPoints => disconnect,connectTimer.Reset(10 * time.Millisecond),checkPeriod,syncTicker.Reset(time.Duration(up.config.Period) * time.Second)",
      "pts := <-up.newEdgePoints => ", "edge := <-up.chNewEdge => sendNodesLocal,subscribeRemoteNode"] ∧
    Gen.syncRunIfs = ["err != nil", "err != nil", "err != nil", "err != nil", "err != nil", "p.Type == data.PointTypeTombstone && p.Value == 0",
      "err != nil", "up.config.Period < 1", "err != nil", "err != nil", "err != nil", "err != nil", "conn", "err != nil", "!up.initialSub",
      "err != nil", "connected", "err != nil", "connected", "err != nil", "err != nil", "connected", "up.config.SyncCountReset", "err != nil",
      "err != nil", "!edge.local", "edge.parent == up.rootRemote.ID", "err != nil", "len(nodes) > 0", "err != nil", "n.Type == \"\"", "err != nil",
      "err != nil", "err != nil", "err != nil"] ∧
    Gen.syncRunAssigns = ["up.config.Period = 20", "connected := false", "up.initialSub = false", "connected = conn", "up.initialSub = true",
      "up.rootRemote = data.NodeEdge{}"] ∧
    Gen.syncConnectSends = ["up.chConnected <- true", "up.chConnected <- false", "up.chConnected <- true"] ∧
    Gen.syncConnectIfs = ["up.config.Disabled", "err != nil"] ∧
    Gen.syncDisconnectAssigns = ["up.initialSub = false", "up.subRemoteUp = nil", "up.ncRemote = nil", "up.rootRemote = data.NodeEdge{}"] :=
  ⟨rfl, rfl, rfl, rfl, rfl, rfl⟩

end Siot.SyncLoop
