import Siot.Lemmas.Feed
import Siot.Props.C06
import Siot.Gen.Manager
/-
C08 — A client is told of every foreign change to its subtree, never its own.
`Foreign` and `Own` say who wrote a batch. Where a write is republished comes from C06.
-/
namespace Siot.Feed
open Siot Siot.Store

/-- all points of the batch were written by another party: origin set, and not the client -/
def Foreign (cid : Bytes) (pts : List Point) : Prop := ∀ p ∈ pts, p.origin ≠ [] ∧ p.origin ≠ cid

/-- all points of the batch were authored by the client itself -/
def Own (cid node : Bytes) (pts : List Point) : Prop :=
  ∀ p ∈ pts, (p.origin = [] ∧ node = cid) ∨ p.origin = cid

theorem echo_false_of_foreign (cid node : Bytes) (pts : List Point) (h : Foreign cid pts) : echo cid node pts = false := by
  unfold echo
  rw [List.any_eq_false]
  intro p hp
  obtain ⟨h1, h2⟩ := h p hp
  simp [h1, h2]

/-- **C08 (foreign changes are delivered).** In every reachable store state, when a node-point write on
`n` is accepted and the client's node `cid` is `n` itself or an ancestor of `n` through non-deleted
edges, a batch written by another party is handed to the client — unchanged, at least once. -/
theorem c08_foreign_delivered (isEven : Nat → Bool) (st : St) (hinv : Inv st) (cid n : Bytes) (pts : List Point)
    (hreach : Reach (keysOf (liveEdges isEven st)) n cid) (hf : Foreign cid pts) :
    Told.points n pts ∈ told isEven st cid (.np n pts) := by
  rw [mem_told_np, c06_node_complete_and_tight isEven st hinv, onNode, echo_false_of_foreign cid n pts hf]
  exact ⟨hreach, List.mem_singleton_self _⟩

/-- **C08 (own changes are not echoed).** A batch containing a point the client authored itself (empty
origin on its own node, or its id as origin) is not handed to it at all — in particular a non-empty
batch it authored entirely. -/
theorem c08_own_filtered (isEven : Nat → Bool) (st : St) (cid n : Bytes) (pts : List Point)
    (hne : pts ≠ []) (hown : Own cid n pts) : told isEven st cid (.np n pts) = [] := by
  obtain ⟨p, hp⟩ := List.exists_mem_of_ne_nil pts hne
  have hecho : echo cid n pts = true :=
    List.any_eq_true.mpr ⟨p, hp, by rcases hown p hp with ⟨h1, h2⟩ | h <;> simp [*]⟩
  rw [told, onNode, if_pos hecho]
  exact List.flatMap_eq_nil_iff.mpr fun _ _ => rfl

/-- **C08 (only from below).** Whatever the client is told about a node-point write comes from its own
node or from a descendant through non-deleted edges; about an edge-point write, through any edges. -/
theorem c08_only_from_below (isEven : Nat → Bool) (st : St) (hinv : Inv st) (cid : Bytes) (w : Write) (x : Told)
    (hx : x ∈ told isEven st cid w) :
    match w with
    | .np n _ => Reach (keysOf (liveEdges isEven st)) n cid
    | .ep n _ _ => Reach (keysOf st.edges) n cid := by
  cases w with
  | np n pts => exact (c06_node_complete_and_tight isEven st hinv n cid).mp ((mem_told_np ..).mp hx).1
  | ep n par pts => exact (c06_edge_complete_and_tight st hinv n cid).mp ((mem_told_ep ..).mp hx).1

/-- **C08 (edge points pass through).** Edge points that are not life-cycle points (tombstone 0/1, node
type — those restart the client, C07) written on a node at or below the client are handed to it. -/
theorem c08_edge_points_delivered (isEven : Nat → Bool) (st : St) (hinv : Inv st) (cid n par : Bytes) (pts : List Point)
    (hreach : Reach (keysOf st.edges) n cid) (hplain : pts.any restarts = false) :
    Told.edgePoints n par pts ∈ told isEven st cid (.ep n par pts) := by
  rw [mem_told_ep, c06_edge_complete_and_tight st hinv, onEdge, hplain]
  exact ⟨hreach, List.mem_singleton_self _⟩

/-- **C08 (order).** What the client is told is the history of accepted writes, each replaced by zero or
more copies of one callback — so callbacks come in the order the writes were accepted. -/
theorem c08_order (isEven : Nat → Bool) (cid : Bytes) (h1 h2 : List (St × Write)) :
    feed isEven cid (h1 ++ h2) = feed isEven cid h1 ++ feed isEven cid h2 ∧
    ∀ x ∈ h1, ∃ k t, told isEven x.1 cid x.2 = List.replicate k t := by
  refine ⟨List.flatMap_append, fun x _ => ?_⟩
  cases x.2 with
  | np n pts =>
    have h : onNode cid n pts = List.replicate (if echo cid n pts then 0 else 1) (.points n pts) := by
      unfold onNode; split <;> rfl
    exact ⟨_, _, by rw [told, h, flatMap_const_replicate]⟩
  | ep n par pts =>
    have h : onEdge n par pts = List.replicate 1 (if pts.any restarts then .restart else .edgePoints n par pts) := by
      unfold onEdge; split <;> rfl
    exact ⟨_, _, by rw [told, h, flatMap_const_replicate]⟩

/-- **C08 (the fold holds what the store holds).** Start from any rows of one node (one per identity)
that the client was constructed from, and let any batches be written to the node and be told to the client.
If per identity later deliveries carry later-or-EQUAL time stamps (`Mono`: non-decreasing, ties between
different points allowed), then folding the batches, point by point, last one wins, yields for every
identity exactly the row the store holds. -/
theorem c08_fold_holds_store (rows0 : List Point) (hu : IdUnique rows0) (bs : List (List Point))
    (hm : Mono (rows0 ++ delivered bs)) (x : Point) :
    lk (rowsAfter rows0 bs) x = lk (foldView rows0 bs.flatten) x := by
  obtain ⟨_, hmd, hb⟩ := mono_append.mp hm
  rw [lk_rowsAfter x hb hmd, foldView_eq, lk_foldPut]
  rfl

/-- the same as sets of rows, when moreover two different points of one identity never share a time stamp -/
theorem c08_fold_rows_equal (rows0 : List Point) (hu : IdUnique rows0) (bs : List (List Point))
    (hm : Mono (rows0 ++ delivered bs)) (ha : Admissible (rows0 ++ delivered bs)) (p : Point) :
    p ∈ rowsAfter rows0 bs ↔ p ∈ foldView rows0 bs.flatten := by
  have h1 : IdUnique (rowsAfter rows0 bs) := (rowsAfter_lww (idUnique_lww_self hu) bs).uniq
  have h2 : IdUnique (foldView rows0 bs.flatten) := foldView_eq .. ▸ foldPut_idUnique hu
  rw [mem_iff_lk h1, mem_iff_lk h2, c08_fold_holds_store rows0 hu bs hm p]

/-- non-vacuity of the fold theorem: two batches, increasing times, keys "" and "0" naming one identity -/
example :
    let b1 : List Point := [{ type := [118], key := [], time := 3, value := 1, origin := [120] }]
    let b2 : List Point := [{ type := [118], key := [48], time := 5, value := 2, origin := [120] }, { type := [100], time := 6, origin := [120] }]
    rowsAfter [] [b1, b2] = foldView [] [b1, b2].flatten := by decide

/-- tie A: the subscription callback of client/manager.go has the shape the model transcribes: subject
`up.<client node>.>`, three chunks = node points with the two origin tests, four chunks = edge points
with the two life-cycle cases, the batch handed over unchanged. -/
theorem gen_feed_pinned :
    Gen.scanSubject = ["\"up.%v.>\", cs.node.ID"] ∧
    Gen.scanCallbackIfs = ["len(chunks) != 3 && len(chunks) != 4", "len(chunks) == 3", "p.Origin == \"\" && nodeID == cs.node.ID",
      "p.Origin == cs.node.ID", "len(chunks) == 4"] ∧
    Gen.scanCases = ["p.Type == data.PointTypeTombstone && p.Value == 1",
      "(p.Type == data.PointTypeTombstone && p.Value == 0) || p.Type == data.PointTypeNodeType"] ∧
    Gen.scanPoints = ["nodeID, points"] ∧ Gen.scanEdgePoints = ["chunks[2], chunks[3], points"] :=
  ⟨rfl, rfl, rfl, rfl, rfl⟩

/-- non-vacuity of `c08_foreign_delivered` / `c08_own_filtered` / `c08_fold_rows_equal`: a reachable store R → a → b with a
    client on `a`; a batch written to `b` by someone else, a batch the client wrote itself, and a history of deliveries in
    time order with distinct time stamps per identity -/
example :
    let isEven : Nat → Bool := fun v => v != 4607182418800017408
    let nt : Int → Point := fun t => { type := nodeTypeT, text := [100], time := t }
    let st := run {} [
      .ep [82] [] [{ type := tombstoneT, time := 1 }, nt 1],
      .ep [97] [82] [{ type := tombstoneT, time := 2 }, nt 2],
      .ep [98] [97] [{ type := tombstoneT, time := 3 }, nt 3]]
    let foreign : List Point := [{ type := [118], time := 5, value := 1, origin := [120] }]
    let own : List Point := [{ type := [118], time := 6, value := 2, origin := [97] }]
    let bs : List (List Point) := [[{ type := [118], time := 3, value := 1 }], [{ type := [118], key := [48], time := 5, value := 2 }, { type := [100], time := 4 }]]
    Inv st ∧ Reach (keysOf (liveEdges isEven st)) [98] [97] ∧ Foreign [97] foreign ∧ own ≠ [] ∧ Own [97] [98] own ∧
      Mono ([] ++ delivered bs) ∧ Admissible ([] ++ delivered bs) := by
  intro isEven nt st foreign own bs
  have hinv : Inv st := c03_reachable _
  exact ⟨hinv, (c06_node_complete_and_tight isEven st hinv [98] [97]).mp (by decide +kernel), by unfold Foreign; decide,
    by decide, by unfold Own; decide, mono_iff.mpr (by decide +kernel), by unfold Admissible; decide +kernel⟩

end Siot.Feed
