import Siot.Model.Crash
import Siot.Lemmas.StoreOrder
import Siot.Gen.Tx
/-
C04 — A crash at any instant loses no acknowledged write and corrupts nothing.
The atomicity of one SQLite transaction is the parameter (see Siot/Model/Crash.lean); the theorems say what
follows for EVERY write history, EVERY number of acknowledged batches and BOTH fates of the batch in flight.
-/
namespace Siot.Crash
open Siot Siot.Store Siot.Sync

theorem run_inv : ∀ (ops : List WOp) (st : St), Inv st → Inv (run st ops) :=
  fun ops _ h => h.run ops

theorem run_le : ∀ (ops : List WOp) (st : St), Inv st → StLe st (run st ops) :=
  fun ops st h => (Fwd.run ⟨h, .refl st⟩ ops).2

theorem run_append (a b : List WOp) (st : St) : run st (a ++ b) = run (run st a) b := by
  induction a generalizing st with
  | nil => rfl
  | cons op a ih => exact ih _

/-- **C04 (nothing is corrupted).** Whatever was written, however many batches had been acknowledged, and
whether or not the batch in flight made it: the recovered store satisfies the store invariants — one row
per point identity, every edge hash equal to the Merkle hash of the content (points and hashes are never
out of step), acyclic. -/
theorem c04_recovered_consistent (st0 : St) (h0 : Inv st0) (ops : List WOp) (acked : Nat) (c : Bool) :
    Inv (recovered st0 ops acked c) ∧ hashInv (recovered st0 ops acked c) = true := by
  have := run_inv (ops.take (acked + if c then 1 else 0)) st0 h0
  exact ⟨this, this.verify_clean⟩

/-- **C04 (each batch completely or not at all).** The recovered store is the store after exactly `acked`
batches or after exactly `acked + 1` batches — never anything in between. -/
theorem c04_all_or_nothing (st0 : St) (ops : List WOp) (acked : Nat) (c : Bool) :
    recovered st0 ops acked c = run st0 (ops.take acked) ∨ recovered st0 ops acked c = run st0 (ops.take (acked + 1)) := by
  cases c
  · exact .inl rfl
  · exact .inr rfl

/-- **C04 (no acknowledged write is lost).** For every acknowledged batch `i < acked`, everything the store
held right after that batch is still there in the recovered store, or has been superseded by a newer-or-equal
point of the same identity written by a later batch. -/
theorem c04_acked_not_lost (st0 : St) (h0 : Inv st0) (ops : List WOp) (acked : Nat) (c : Bool) (i : Nat) (hi : i < acked) :
    StLe (run st0 (ops.take (i + 1))) (recovered st0 ops acked c) :=
  run_take_le h0 ops (Nat.le_trans hi (Nat.le_add_right _ _))

/-- and what an accepted node-point batch wrote is in the store right after it: for every point of the
    batch, a row of its identity at least as new (so, with `c04_acked_not_lost`, in the recovered store too) -/
theorem c04_batch_present (st st' : St) (hinv : Inv st) (id : Bytes) (pts : List Point) (h : nodePoints st id pts = .ok st')
    (p : Point) (hp : p ∈ pts) : ∃ q ∈ ptsOf st' id, sameId q (normPoint p) = true ∧ (normPoint p).time ≤ q.time := by
  cases nodePoints_ok_iff.mp h
  rw [ptsOf_nodeWrite, if_pos rfl]
  obtain ⟨c, hc, hcs, hct⟩ := (collapse_spec (pts.map normPoint)).2.2 (normPoint p) (List.mem_map_of_mem hp)
  obtain ⟨q, hq, hqs, hqt⟩ := rowsLe_mergeBatch (hinv.npu id) _ c (List.mem_append_right _ hc)
  exact ⟨q, hq, sameId_trans hqs hcs, Int.le_trans hct hqt⟩

/-- tie A: each write function runs one transaction and nothing outside it; the helpers that touch rows get
the transaction handed in; the root id is written inside the transaction that creates the root edge; the file
is opened in WAL mode with synchronous=NORMAL. -/
theorem gen_tx_pinned :
    Gen.nodePointsOneTx = true ∧ Gen.nodePointsNoDirectDb = true ∧ Gen.nodePointsRollbackOnReturn = true ∧
    Gen.nodePointsCommitLast = true ∧ Gen.nodePointsTxLockBeforeBegin = true ∧
    Gen.edgePointsOneTx = true ∧ Gen.edgePointsNoDirectDb = true ∧ Gen.edgePointsRollbackOnReturn = true ∧
    Gen.edgePointsCommitLast = true ∧ Gen.edgePointsTxLockBeforeBegin = true ∧
    Gen.updateHashHelperEdges = ["tx, \"SELECT * FROM edges WHERE down=?\", id"] ∧
    Gen.isAncestorEdges = ["tx, \"SELECT * FROM edges WHERE down=?\", of"] ∧
    Gen.writeHashCachePrepare = ["`UPDATE edges SET hash = ? WHERE id = ?`"] ∧
    Gen.edgePointsRootUpdate = ["\"UPDATE meta SET root_id = ?\", nodeID"] :=
  ⟨rfl, rfl, rfl, rfl, rfl, rfl, rfl, rfl, rfl, rfl, rfl, rfl, rfl, rfl⟩

theorem gen_pragmas_pinned :
    Gen.storePragmas = ["\"_pragma=busy_timeout(8000)&_pragma=foreign_keys(1)&_pragma=journal_mode(WAL)&_pragma=synchronous(NORMAL)&_pragma=journal_size_limit(100000000)\""] := rfl

/-- non-vacuity: a history of three batches, two acknowledged when the writer died; the two recoverable stores differ (the
    third batch changes a point) and both are prefix states; the empty store satisfies the invariant the theorems start from -/
example :
    let ops : List WOp := [
      .ep [97] [] [{ type := tombstoneT, time := 3 }, { type := nodeTypeT, text := [100], time := 3 }],
      .np [97] [{ type := [1], time := 5, value := 4607182418800017408 }],
      .np [97] [{ type := [1], time := 7, value := 4611686018427387904 }]]
    Inv ({} : St) ∧ recovered {} ops 2 false = run {} (ops.take 2) ∧ recovered {} ops 2 true = run {} ops ∧
      recovered {} ops 2 false ≠ recovered {} ops 2 true :=
  ⟨Inv.empty, rfl, rfl, by decide +kernel⟩

end Siot.Crash
