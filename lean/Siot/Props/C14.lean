import Siot.Lemmas.Schedule
import Siot.Gen.Schedule
/- C14 — Schedule windows: UTC, midnight wrap, qualified by the start day. -/
namespace Siot.Schedule
open Siot

/-- Tie A: the two regular expressions that `parseHM` / `parseDate` transcribe are the ones in
client/schedule.go right now (regenerated from the source on every run). -/
theorem gen_reHourMin_pinned : Gen.reHourMin = "(\\d{1,2}):(\\d\\d)" := rfl
theorem gen_reDate_pinned : Gen.reDate = "(\\d{4})-(\\d{2})-(\\d{2})" := rfl

theorem dayOf_start (D : Int) (sh sm : Nat) (h1 : sh < 24) (h2 : sm < 60) :
    dayOf (D * dayNs + (sh : Int) * hourNs + (sm : Int) * minNs) = D :=
  dayOf_startOf D h1 h2

theorem dayOf_start_prev (D : Int) (sh sm : Nat) (h1 : sh < 24) (h2 : sm < 60) :
    dayOf (D * dayNs + (sh : Int) * hourNs + (sm : Int) * minNs - dayNs) = D - 1 :=
  startOf_pred D sh sm ▸ dayOf_startOf (D - 1) h1 h2

/-- **C14 (main).** For every schedule whose start and end parse to valid clock times and whose
date strings all parse, and for every instant `t` (any integer number of nanoseconds),
`activeForTime` returns without error, and returns `true` exactly when some calendar day `D`
— quantified over ALL days — is allowed by the filters and its window contains `t`. -/
theorem c14_exact (s : Sched) (t : Int) (sh sm eh em : Nat)
    (hs : parseHM s.start = some (sh, sm)) (he : parseHM s.stop = some (eh, em))
    (hsh : sh < 24) (hsm : sm < 60) (heh : eh < 24) (hem : em < 60)
    (hd : ∀ d ∈ s.dates, parseDate d ≠ none) :
    ∃ b, activeForTime s t = .ok b ∧ (b = true ↔ window s.weekdays s.dates sh sm eh em t) :=
  active_iff_window s t sh sm eh em hs he hsh hsm heh hem hd

/-- only the day of `t` and the day before can have a window containing `t` -/
theorem window_day (t D : Int) (sh sm eh em : Nat)
    (hsh : sh < 24) (hsm : sm < 60) (heh : eh < 24) (hem : em < 60)
    (hin : inWindow t D sh sm eh em) : D = dayOf t ∨ D = dayOf t - 1 :=
  (window_days hsh hsm heh hem hin).imp_right And.right

/-- the executable oracle used by the driver is the specification -/
theorem windowExec_iff (wds : List Int) (dates : List Bytes) (t : Int) (sh sm eh em : Nat)
    (hsh : sh < 24) (hsm : sm < 60) (heh : eh < 24) (hem : em < 60) :
    windowExec wds dates sh sm eh em t = true ↔ window wds dates sh sm eh em t := by
  unfold windowExec
  simp only [List.any_eq_true, Bool.and_eq_true, decide_eq_true_eq]
  exact window_iff_exists_mem fun D hin => by
    rcases window_day t D sh sm eh em hsh hsm heh hem hin with rfl | rfl <;> simp

/-- **C14 boundaries.** start inclusive, end exclusive; `start = end` is a 24 h window. -/
theorem c14_boundaries (D : Int) (sh sm eh em : Nat)
    (hsh : sh < 24) (hsm : sm < 60) (heh : eh < 24) (hem : em < 60) :
    inWindow (startOf D sh sm) D sh sm eh em ∧ ¬ inWindow (endOf D sh sm eh em) D sh sm eh em ∧
    endOf D sh sm sh sm = startOf D sh sm + dayNs :=
  ⟨⟨Int.le_refl _, startOf_lt_endOf D hsh hsm heh hem⟩, fun h => Int.lt_irrefl _ h.2,
    by rw [endOf_def, if_neg (Int.lt_irrefl _)]⟩

/-- **C14 errors.** A start or end string without a `H:MM` match is an error, whatever the rest. -/
theorem c14_err_start (s : Sched) (t : Int) (h : parseHM s.start = none) :
    activeForTime s t = .err "start" := by
  unfold activeForTime
  rw [h]

theorem c14_err_end (s : Sched) (t : Int) (p : Nat × Nat) (h : parseHM s.start = some p)
    (h2 : parseHM s.stop = none) : activeForTime s t = .err "end" := by
  obtain ⟨a, b⟩ := p
  unfold activeForTime
  rw [h]
  simp only [h2]

/-- non-vacuity: a wrapping weekday-qualified schedule "22:30"–"01:15", Thursdays only;
    Friday 1970-01-02 00:30 UTC is inside (window started Thursday), and the hypotheses hold. -/
def exSched : Sched := ⟨[50,50,58,51,48], [48,49,58,49,53], [4], []⟩  -- "22:30", "01:15"
example : parseHM exSched.start = some (22, 30) ∧ parseHM exSched.stop = some (1, 15) ∧
    activeForTime exSched (1 * dayNs + 30 * minNs) = .ok true ∧
    activeForTime exSched (2 * dayNs + 30 * minNs) = .ok false := by decide +kernel

end Siot.Schedule
