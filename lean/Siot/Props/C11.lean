import Siot.Lemmas.ConfigTotal
import Siot.Gen.Config
/-
C11 — Decoding arbitrary points never crashes.
Model: Siot/Model/Config.lean (Decode / GroupedPoints.SetValue / setVal / MergePoints with every
`reflect` indexing operation checked).
-/
namespace Siot.Config
open Siot

/-- Tie A: the limits and the structure of the grouping step of Decode as they are in data/*.go now -/
theorem gen_config_pinned :
    Gen.cfgMaxSafeInteger = 9007199254740991 ∧ Gen.cfgMaxStructureSize = 1000 ∧
    Gen.cfgUpdateKeyIndexCmps = ["!=\"\"", "!=nil", "<0", ">g.KeyMaxInt", "!=1"] ∧
    Gen.cfgSetValCmps = ["==1", "==reflect.Pointer", "<0"] := by
  and_intros <;> rfl

theorem setValue_no_panic (N : Num) (g : Group) (hg : GInv g) (ty : FieldTy) (v : FVal) (ht : FTyped ty v) (m : String) :
    (setValue N g ty v).2 ≠ .panic m := by
  cases ty <;> cases v <;> try exact ht.elim
  case scalar.scalar k x => exact setScalars_no_panic _ _ m
  case ptr.ptr k x => exact setPtrs_no_panic _ _ m
  case struct.struct fs vs => exact setStruct_no_panic _ fs vs m ht
  case map.map k kvs =>
    rw [setValue_map]
    exact ite_snd_ne nofun fun _ => setMap_no_panic _ _ m
  case ptrStruct.ptrStruct fs vo =>
    rw [setValue_ptrStruct]
    refine ite_snd_ne nofun fun _ => ?_
    cases vo with
    | none => exact setStruct_no_panic _ fs _ m (length_zeroVals fs)
    | some vs => exact setStruct_no_panic _ fs vs m ht
  -- slices and arrays: past the checks every point of the group has a key index, bounded by `keyMaxInt` if live
  case slice.slice k vs =>
    rw [setValue_slice]
    refine ite_snd_ne nofun fun hk => ite_snd_ne nofun fun _ => ?_
    generalize hvs' : vs ++ List.replicate _ (zeroS k) = vs'
    have hlen : g.keyMaxInt < vs'.length := by rw [← hvs', List.length_append, List.length_replicate]; omega
    have := setIndexed_no_panic (N := N) (k := k) g.keyMaxInt g.points vs' [] (hg.idx (by simpa using hk)) hlen m
    -- `SetValue` matches on the status of the loop (it trims only after `ok`): whichever it is, it is passed on
    generalize setIndexed N k g.points vs' [] = r at this ⊢
    obtain ⟨a, b, st⟩ := r
    cases st <;> exact this
  case array.array n k vs =>
    rw [setValue_array]
    refine ite_snd_ne nofun fun hk => ite_snd_ne nofun fun _ => ite_snd_ne nofun fun hn => ?_
    have hlen : g.keyMaxInt < vs.length := by rw [show vs.length = n from ht]; omega
    exact setIndexed_no_panic g.keyMaxInt g.points vs [] (hg.idx (by simpa using hk)) hlen m

/-- the fields of a value have the shapes their types prescribe -/
def Typed : Ty → List FVal → Prop
  | [], [] => True
  | f :: fs, x :: xs => FTyped f.ty x ∧ Typed fs xs
  | _, _ => False

theorem decodeFields_no_panic (N : Num) (ne : NodeEdge) : ∀ (T : Ty) (xs : List FVal), Typed T xs →
    (decodeFields N ne T xs).2.2 = none := by
  intro T xs ht
  fun_induction Typed T xs
  case case1 => rfl
  case case2 f fs x xs ih =>
    have ih := ih ht.2
    rw [decodeFields]
    -- the field's group, if any, keeps the invariant of the grouping fold, so `SetValue` does not panic on it
    cases hg : group f.ptype (if f.edge then ne.edgePoints else ne.points) with
    | none => exact ih
    | some g =>
      have hnp := setValue_no_panic N g (group_inv _ _ g hg) f.ty x ht.1
      dsimp only
      generalize setValue N g f.ty x = r at hnp ⊢
      obtain ⟨x', st⟩ := r
      cases st with
      | panic m => exact absurd rfl (hnp m)
      | _ => exact ih
  case case3 => exact ht.elim

/-- **C11 (main): decoding never panics.** For every supported configuration type `T`, every value
of it, and EVERY list of points and edge points — any types, keys that are empty, negative, huge or
non-numeric, values of any bit pattern (NaN, infinities, out of range), any tombstone counts — `Decode`
either updates the value or reports an error. No `reflect` indexing or assignment goes out of range.
The numeric conversions are arbitrary (`N`), so the claim does not depend on how Go converts
out-of-range floats. -/
theorem c11_never_panics (N : Num) (T : Ty) (ne : NodeEdge) (v : Val) (ht : Typed T v.fields) :
    (decode N T ne v).panic = none :=
  decodeFields_no_panic N ne T v.fields ht

/-- the same for `MergePoints` / `MergeEdgePoints` -/
theorem c11_merge_never_panics (N : Num) (T : Ty) (id : Bytes) (pts : List Point) (v : Val) (ht : Typed T v.fields) :
    ∀ d, mergePoints N T id pts v = some d → d.panic = none := by
  intro d h
  unfold mergePoints at h
  split at h
  · cases h
  · cases h
    exact c11_never_panics N T _ v ht

/-- **C11: undeclared point types are ignored.** Removing every point whose type no field of `T`
declares changes neither the outcome nor the resulting value. -/
theorem c11_undeclared_ignored (N : Num) (T : Ty) (ne : NodeEdge) (v : Val) :
    let declared := fun (edge : Bool) (p : Point) => T.any (fun f => f.edge == edge && f.ptype == p.type)
    decode N T { ne with points := ne.points.filter (declared false), edgePoints := ne.edgePoints.filter (declared true) } v
      = decode N T ne v := by
  intro declared
  -- the group of a declared type only looks at points of that type
  have hgroup (f : Field) (hf : f ∈ T) (e : Bool) (he : f.edge = e) (ps : List Point) :
      group f.ptype (ps.filter (declared e)) = group f.ptype ps := by
    have : (ps.filter (declared e)).filter (fun p => p.type == f.ptype) = ps.filter (fun p => p.type == f.ptype) := by
      rw [List.filter_filter]
      refine List.filter_congr fun p _ => ?_
      by_cases hp : p.type = f.ptype
      · rw [beq_iff_eq.mpr hp, Bool.true_and]
        exact List.any_eq_true.mpr ⟨f, hf, by rw [he, hp]; simp⟩
      · rw [beq_eq_false_iff_ne.mpr hp, Bool.false_and]
    rw [group_eq, group_eq, this]
  have key (fs : List Field) (hfs : ∀ f ∈ fs, f ∈ T) (xs : List FVal) :
      decodeFields N { ne with points := ne.points.filter (declared false), edgePoints := ne.edgePoints.filter (declared true) } fs xs
        = decodeFields N ne fs xs := by
    induction fs generalizing xs with
    | nil => rfl
    | cons f fs ih =>
      cases xs with
      | nil => rfl
      | cons x xs =>
        have hg : group f.ptype (if f.edge then ne.edgePoints.filter (declared true) else ne.points.filter (declared false)) =
            group f.ptype (if f.edge then ne.edgePoints else ne.points) := by
          cases he : f.edge <;> exact hgroup f (hfs f List.mem_cons_self) _ he _
        rw [decodeFields, decodeFields, ih (fun g hg => hfs g (List.mem_cons_of_mem _ hg)), hg]
  unfold decode
  rw [key T (fun f h => h) v.fields]

/-- non-vacuity of `c11_never_panics`: a type with an array, a slice, a map and a flat struct, and a value of that type
    (the points decoded into it are arbitrary: the theorem takes any) -/
example :
    let T : Ty := [⟨false, [97], .array 2 (.int 32)⟩, ⟨false, [98], .slice .str⟩, ⟨false, [99], .map .f64⟩,
                   ⟨true, [100], .struct [([107], .bool), ([108], .uint 8)]⟩, ⟨false, [101], .ptrStruct [([107], .str)]⟩]
    let v : Val := { id := [1], fields := [.array [.i 1, .i 2], .slice [], .map [([107], .f 0)], .struct [.b true, .u 3], .ptrStruct none] }
    Typed T v.fields := by
  exact ⟨rfl, trivial, trivial, rfl, trivial, trivial⟩

end Siot.Config
