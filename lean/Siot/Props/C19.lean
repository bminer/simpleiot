import Siot.Lemmas.ModbusE2E
import Siot.Props.C18
import Siot.Gen.ModbusFraming
/-
C19 — Modbus client, server and transports agree end to end.
Model: Siot/Model/ModbusE2E.lean on top of the server model of C18.
-/
namespace Siot.Modbus
open Siot Siot.Modbus.Spec

/-- Tie A: CRC-16 parameters of RtuCrc (init 0xFFFF, reflected polynomial 0xA001, 8 shifts, byte swap),
the minimum frame lengths of both transports, the TCP header layout and the buffer size. -/
theorem gen_framing_pinned :
    Gen.mbMaxADULen = 260 ∧
    Gen.mbRtuCrcLits = ["65535", "8", "0", "1", "0", "1", "40961", "1", "8", "8"] ∧
    Gen.mbCheckRtuCrcCmps = ["<4", "!=crcPacket"] ∧ Gen.mbTcpDecodeCmps = ["<9"] ∧
    Gen.mbTcpEncodeLits = ["8", "0", "4", "2", "6", "7", "8"] ∧
    Gen.mbRespReadBitsCountCmps = ["<1", "<0", "==1"] := by
  and_intros <;> rfl

/-- **C19 register reads agree.** For every register file (16-bit values), unit id, transaction id,
framing (RTU or TCP), function code 3 or 4, address and count within the protocol limits with all
addressed registers present: the client returns exactly `count` values, and they are the values the
server holds at `address … address+count-1`. -/
theorem c19_read_regs_agrees (fr : Framing) (tx : Nat) (htx : tx < 65536) (id : UInt8) (rs : Regs)
    (h16 : Regs16 rs) (fc : Nat) (hfc : fc = 3 ∨ fc = 4) (a n : Nat) (ha : a < 65536) (hn1 : 1 ≤ n)
    (hn : n ≤ 125) (hr : a + n ≤ 65536) (vals : List Nat)
    (hv : allSome ((List.range n).map (fun i => readReg rs (a + i))) = some vals) :
    clientReadRegs fr tx id rs fc a n = .ok vals ∧ vals.length = n := by
  have hlen : vals.length = n := by rw [allSome_length hv, List.length_map, List.length_range]
  subst hlen
  have hvl : ∀ v ∈ vals, v < 65536 := fun v hvm => by
    obtain ⟨i, _, hi⟩ := List.mem_map.mp (allSome_mem hv hvm)
    exact readReg_lt rs h16 _ _ hi
  have hfc256 : fc < 256 := by omega
  refine ⟨?_, rfl⟩
  unfold clientReadRegs
  have hfit : FitsADU fc (u8 (vals.length * 2 % 256) :: vals.flatMap be16) :=
    ⟨hfc256, List.cons_ne_nil _ _, by rw [List.length_cons, flatMap_be16_length]; unfold maxADULen; omega⟩
  rw [exchange_ok fr tx htx id (fitsADU_reqRead hfc256 a _) (processRequest_readWords rs fc hfc a _ ha hn1 hn hr vals hv)
    rfl hfit]
  dsimp only
  rw [if_neg (· rfl), respReadRegs_be16 fc hfc vals hn1 (Nat.le_trans hn (by decide)) hvl]

/-- a read outside the limits, crossing 0xFFFF or touching a missing register is answered with an
    exception by the server (C18) and returned as an error by the client — never as values -/
theorem c19_read_regs_error (fr : Framing) (tx : Nat) (htx : tx < 65536) (id : UInt8) (rs : Regs)
    (fc : Nat) (hfc : fc = 3 ∨ fc = 4) (a n : Nat) (ha : a < 65536) (hn16 : n < 65536) (code rfc : Nat)
    (hrfc : rfc < 256) (hne : rfc ≠ fc)
    (hp : processRequest rs fc (reqRead a n) = (.exception rfc code, rs)) :
    clientReadRegs fr tx id rs fc a n = .err "fc" := by
  unfold clientReadRegs
  rw [exchange_ok fr tx htx id (fitsADU_reqRead (by omega) a n) hp rfl
    ⟨hrfc, List.cons_ne_nil _ _, (by decide : 1 + 8 ≤ 260)⟩]
  exact if_pos hne

theorem processRequest_readBits (rs : Regs) (fc : Nat) (hfc : fc = 1 ∨ fc = 2) (a n : Nat)
    (ha : a < 65536) (hn1 : 1 ≤ n) (hn : n ≤ 2000) (hr : a + n ≤ 65536) (bits : List Bool)
    (hv : allSome ((List.range n).map (fun i => readCoil rs (a + i))) = some bits) :
    processRequest rs fc (reqRead a n) = (.normal fc (u8 ((n + 7) / 8) :: statusBytes ((n + 7) / 8) bits), rs) := by
  rw [processRequest, if_neg (not_short fc _ (by rcases hfc with rfl | rfl <;> exact Nat.le_refl 4)), if_pos hfc]
  simp only [reqRead_eq, reqReadBits, word, join_put a ha, join_put n (Nat.lt_of_le_of_lt hn (by decide)), readBits_eq, hv]
  rw [Nat.mod_eq_of_lt (by omega)]
  exact (if_neg (not_or.mpr ⟨Nat.not_lt.mpr hn1, Nat.not_lt.mpr hn⟩)).trans (if_neg (Nat.not_lt.mpr hr))

theorem statusByte_lt (bits : List Bool) (j : Nat) : statusByte bits j < 256 :=
  (statusByte_spec bits j).1

theorem range_map_getD (bits : List Bool) : (List.range bits.length).map (fun i => bits.getD i false) = bits :=
  List.ext_getElem (by rw [List.length_map, List.length_range]) fun i _ h => by
    rw [List.getElem_map, List.getElem_range, List.getD_eq_getElem?_getD, List.getElem?_eq_getElem h, Option.getD_some]

/-- **C19 coil / discrete-input reads agree.** Within the limits and with all addressed coils
present, the client returns exactly `count` values — one per requested coil, not one per response
byte — and they are the coils the server holds. -/
theorem c19_read_bits_agrees (fr : Framing) (tx : Nat) (htx : tx < 65536) (id : UInt8) (rs : Regs)
    (fc : Nat) (hfc : fc = 1 ∨ fc = 2) (a n : Nat) (ha : a < 65536) (hn1 : 1 ≤ n)
    (hn : n ≤ 2000) (hr : a + n ≤ 65536) (bits : List Bool)
    (hv : allSome ((List.range n).map (fun i => readCoil rs (a + i))) = some bits) :
    clientReadBits fr tx id rs fc a n = .ok bits ∧ bits.length = n := by
  have hlen : bits.length = n := by rw [allSome_length hv, List.length_map, List.length_range]
  subst hlen
  have hfc256 : fc < 256 := by omega
  have hk : (bits.length + 7) / 8 ≤ 250 := by omega
  refine ⟨?_, rfl⟩
  unfold clientReadBits
  have hfit : FitsADU fc (u8 ((bits.length + 7) / 8) :: statusBytes ((bits.length + 7) / 8) bits) :=
    ⟨hfc256, List.cons_ne_nil _ _, by rw [List.length_cons, statusBytes_length]; unfold maxADULen; omega⟩
  rw [exchange_ok fr tx htx id (fitsADU_reqRead hfc256 a _) (processRequest_readBits rs fc hfc a _ ha hn1 hn hr bits hv)
    rfl hfit]
  exact respReadBitsCount_statusBytes fc hfc bits (Nat.lt_of_le_of_lt hk (by decide))

theorem c19_write_reg_then_read (fr : Framing) (tx : Nat) (htx : tx < 65536) (id : UInt8) (rs : Regs)
    (a v : Nat) (ha : a < 65536) (hv : v < 65536) (ok : Nat → Bool)
    (hex : validatorOf rs a = some ok) (hok : ok v = true) :
    let w := clientWriteSingle fr tx id rs 6 a v
    w.1 = .ok () ∧ w.2 = setReg rs a v ∧ readReg w.2 a = some v ∧
      ∀ b, b < 65536 → b ≠ a → readReg w.2 b = readReg rs b := by
  have hp : processRequest rs 6 (reqRead a v) = (.normal 6 (reqRead a v), setReg rs a v) := by
    rw [processRequest, if_neg (not_short 6 (reqRead a v) (Nat.le_refl 4))]
    simp only [reqRead_eq, reqWriteReg, word, join_put a ha, join_put v hv, writeReg_eq rs a v ha, hex, hok, if_true]
    rfl
  have hex' : readReg rs a ≠ none := fun h => by
    rw [(readReg_none_iff rs a ha).mp h] at hex; cases hex
  have hx := exchange_ok fr tx htx id (fitsADU_reqRead (by decide) a v) hp rfl (fitsADU_reqRead (by decide) a v)
  simp only [clientWriteSingle, hx, ne_eq, not_true_eq_false, if_false]
  refine ⟨trivial, trivial, ?_, fun b hb hne => ?_⟩
  · rw [setReg_read rs a v a ha ha hex', if_pos rfl]
  · rw [setReg_read rs a v b ha hb hex', if_neg hne]

/-! Framing: the round trips are those of Lemmas/ModbusFraming.lean, restated so that they are audited here. -/
theorem c19_rtu_roundtrip (id : UInt8) (fc : Nat) (hfc : fc < 256) (data : Bytes) :
    rtuDecode (rtuEncode id fc data) = .ok (id, fc, data) := rtu_roundtrip id fc hfc data

theorem c19_rtu_rejects (p : Bytes) (id fcb : UInt8) (data : Bytes) (hi lo : UInt8) :
    (p.length < 4 → rtuDecode p = .err "short") ∧
    (rtuCrc (id :: fcb :: data) ≠ hi.toNat * 256 + lo.toNat → rtuDecode (id :: fcb :: data ++ [hi, lo]) = .err "crc") :=
  ⟨rtu_rejects_short p, rtu_rejects_bad_crc id fcb data hi lo⟩

theorem c19_tcp_roundtrip (tx : Nat) (htx : tx < 65536) (id : UInt8) (fc : Nat) (hfc : fc < 256) (d0 : UInt8) (rest : Bytes) :
    tcpDecodeClient tx (tcpEncode tx id fc (d0 :: rest)) = .ok (id, fc, d0 :: rest) := tcp_roundtrip tx htx id fc hfc d0 rest

theorem c19_tcp_rejects (tx tx' : Nat) (htx' : tx' < 65536) (hne : tx' ≠ tx) (id : UInt8) (fc : Nat) (d0 : UInt8)
    (rest p : Bytes) :
    (p.length < 9 → tcpDecodeClient tx p = .err "short") ∧
    tcpDecodeClient tx (tcpEncode tx' id fc (d0 :: rest)) = .err "txid" :=
  ⟨tcp_rejects_short tx p, tcp_rejects_txid tx tx' htx' hne id fc d0 rest⟩

-- modbus/data.go
theorem c19_uint32_roundtrip (v : Nat) (h : v < 2 ^ 32) :
    regsToUint32 (uint32ToRegs v) = [v] ∧ regsToUint32Swap (uint32ToRegsSwap v) = [v] := by
  have hv : v / 65536 % 65536 * 65536 + v % 65536 = v := two_digits 65536 v h
  exact ⟨congrArg (· :: []) hv, congrArg (· :: []) hv⟩

theorem c19_regs_uint32_roundtrip (hi lo : Nat) (h1 : hi < 65536) (h2 : lo < 65536) :
    (regsToUint32 [hi, lo]).flatMap uint32ToRegs = [hi, lo] ∧
    (regsToUint32Swap [lo, hi]).flatMap uint32ToRegsSwap = [lo, hi] := by
  obtain ⟨e1, e2⟩ := digits_two 65536 hi lo h1 h2
  simp only [uint32ToRegs, uint32ToRegsSwap, regsToUint32, regsToUint32Swap, List.flatMap_cons, List.flatMap_nil,
    List.append_nil, e1, e2, and_self]

/-- two's complement reinterpretation (`int32(uint32)`, `int16(uint16)`) and back is the identity -/
theorem c19_signed_roundtrip (bits : Nat) (hb : bits = 16 ∨ bits = 32) (n : Nat) (h : n < 2 ^ bits) :
    ofSigned bits (toSigned bits n) = n :=
  ofSigned_toSigned bits n h

theorem c19_signed_roundtrip_inv (bits : Nat) (hb : bits = 16 ∨ bits = 32) (i : Int)
    (h1 : -(2 ^ (bits - 1) : Int) ≤ i) (h2 : i < 2 ^ (bits - 1)) :
    toSigned bits (ofSigned bits i) = i :=
  toSigned_ofSigned bits (by omega) i h1 h2

/-- non-vacuity: a register file with a gap and a validator; a read of two mapped registers meets the premises of
    `c19_read_regs_agrees`, a write to the validated register those of `c19_write_reg_then_read` -/
example :
    let rs : Regs := [⟨10, 7, fun _ => true⟩, ⟨11, 65535, fun v => v % 2 == 0⟩, ⟨13, 1, fun _ => true⟩]
    Regs16 rs ∧ allSome ((List.range 2).map (fun i => readReg rs (10 + i))) = some [7, 65535] ∧
      (∃ ok, validatorOf rs 11 = some ok ∧ ok 4 = true ∧ ok 5 = false) ∧ readReg rs 12 = none := by
  exact ⟨by unfold Regs16; decide, rfl, ⟨_, rfl, rfl, rfl⟩, rfl⟩

end Siot.Modbus
