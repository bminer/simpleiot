import Siot.Lemmas.CobsStream
import Siot.Gen.Cobs
/-
C16 — COBS framing delivers each frame intact for any read chunking.
Model: Siot/Model/Cobs.lean (cobsEncode, cobsDecodeInplace, CobsWrapper.Read).
-/
namespace Siot.Cobs
open Siot

/-- Tie A: thresholds and comparison operators of the encoder and decoder as they are in
client/cobs-wrapper.go right now (block size 254 with `>=`, code 0xff without implied zero,
minimum length 3). -/
theorem gen_cobsEncode_pinned : Gen.cobsEncodeCmps = [">=254"] := rfl
theorem gen_cobsDecode_pinned : Gen.cobsDecodeCmps = ["<=2", "==0", "==0", "!=255", "==0"] := rfl

/-- **C16 codec round trip.** For EVERY frame `f` (any length, any content, including the empty
frame, frames with 254-byte zero-free runs followed by a zero, …) decoding what `Write` puts on
the wire gives back exactly `f`. -/
theorem c16_codec_roundtrip (f : Bytes) : decodeInplace (wire f) = .ok f := by
  have hlen : ¬ (wire f).length ≤ 2 := by
    have := List.length_pos_iff.2 (blocks_ne_nil f)
    rw [wire, encode_eq, List.length_cons, List.length_append]
    exact Nat.not_le.2 (Nat.succ_lt_succ (Nat.succ_lt_succ this))
  rw [decodeInplace, if_neg hlen]
  exact decStart_blocks f

/-- a frame fits the reader's limits (`len(b)` and `maxMessageLength`). `Read` hands the decoder the body between two
delimiters, one byte more than `encode f`; its length guard sees the body without a delimiter, one byte less. -/
def Fits (cfg : Cfg) (f : Bytes) : Prop :=
  (encode f).length + 1 ≤ cfg.bufLen ∧ (encode f).length ≤ cfg.maxLen + 1

theorem outFor_blocks (cfg : Cfg) (f : Bytes) (h : Fits cfg f) :
    outFor cfg (blocks f) = .frame (.ok f) :=
  (if_neg (Nat.not_lt.2 h.1)).trans (congrArg _ (c16_codec_roundtrip f))

/-- **C16 (main): any chunking.** For every list of frames that fit the limits, and EVERY way of
cutting the byte stream written for them into a leftover buffer and a list of device reads (any cut
positions, empty reads allowed, any number of reads), successive `Read` calls return exactly the
frames that were written, intact, in order, each once — and then the device's error. -/
theorem c16_any_chunking (cfg : Cfg) (fs : List Bytes) (hfit : ∀ f ∈ fs, Fits cfg f)
    (hbuf : 0 < cfg.bufLen)
    (cs : List Bytes) (lo : Bytes) (hcs : lo ++ cs.flatten = stream fs) (fuel : Nat) (hfuel : fs.length < fuel) :
    readAll cfg fuel lo cs = fs.map (fun f => .frame (.ok f)) ++ [.devErr] := by
  rw [readAll_char cfg fuel cs lo (fs.map blocks) [] (hcs ▸ bodiesOf_stream fs) (fun g hg => ?_)
    ⟨hbuf, Nat.zero_le _⟩ (by rwa [List.length_map]), List.map_map]
  · exact congrArg (· ++ _) (List.map_congr_left fun f hf => outFor_blocks cfg f (hfit f hf))
  · obtain ⟨f, hf, rfl⟩ := List.mem_map.1 hg
    have := hfit f hf
    rw [Fits, encode_eq, List.length_append] at this
    exact ⟨Nat.lt_of_succ_lt this.1, Nat.le_of_succ_le_succ this.2⟩

/-- **C16 resynchronisation.** Let the stream be: arbitrary non-delimiter garbage `junk` (a damaged
frame: bytes flipped, lost or inserted — anything without a zero, within the length limit), the next
delimiter, then the frames `fs` as written. Whatever the chunking, the garbage costs exactly ONE
result (an error or a garbage frame — `outFor cfg junk`), and every frame that begins after the
delimiter is delivered intact, in order, each once. -/
theorem c16_resync (cfg : Cfg) (junk : Bytes) (hj : ZF junk) (hne : junk ≠ [])
    (hjl : junk.length < cfg.bufLen ∧ junk.length ≤ cfg.maxLen)
    (fs : List Bytes) (hfit : ∀ f ∈ fs, Fits cfg f)
    (cs : List Bytes) (lo : Bytes) (hcs : lo ++ cs.flatten = junk ++ 0 :: stream fs)
    (fuel : Nat) (hfuel : fs.length + 1 < fuel) :
    readAll cfg fuel lo cs = outFor cfg junk :: (fs.map (fun f => .frame (.ok f)) ++ [.devErr]) := by
  cases fuel with
  | zero => cases hfuel
  | succ fuel =>
    obtain ⟨lo', cs', hrest, hstep⟩ := readAll_frame hjl cs lo (hcs ▸ cutAtZero_dropZeros_zf junk hne hj _)
    rw [hstep, c16_any_chunking cfg fs hfit (Nat.zero_lt_of_lt hjl.1) cs' lo' hrest fuel
      (Nat.lt_of_succ_lt_succ hfuel)]

/-- **C16 reader characterisation** (re-exported): on ANY byte stream within the limits, cut in ANY
way, the reader returns exactly one result per non-empty zero-delimited body, in order. Damage
therefore only affects the bodies it touches. -/
theorem c16_reader_char (cfg : Cfg) (S : Bytes)
    (hb : ∀ f ∈ (bodiesOf S).1, f.length < cfg.bufLen ∧ f.length ≤ cfg.maxLen)
    (hr : (bodiesOf S).2.length < cfg.bufLen ∧ (bodiesOf S).2.length ≤ cfg.maxLen)
    (cs : List Bytes) (lo : Bytes) (hS : lo ++ cs.flatten = S) (fuel : Nat)
    (hf : (bodiesOf S).1.length < fuel) :
    readAll cfg fuel lo cs = (bodiesOf S).1.map (outFor cfg) ++ [.devErr] :=
  readAll_char cfg fuel cs lo _ _ (hS ▸ rfl) hb hr hf

/-- non-vacuity: two frames, the second split across three device reads, cut inside the first;
    the hypotheses of `c16_any_chunking` hold for them and the concrete run agrees. -/
example : readAll ⟨16, 16⟩ 5 [] [[0, 4, 1], [2, 3, 0, 0, 3, 4], [5, 2], [6, 0]] =
      [.frame (.ok [1, 2, 3]), .frame (.ok [4, 5, 0, 6]), .devErr] := by
  decide +kernel

example : Fits ⟨16, 16⟩ [1, 2, 3] ∧ Fits ⟨16, 16⟩ [4, 5, 0, 6] ∧
    [0, 4, 1] ++ [[2, 3, 0, 0, 3, 4], [5, 2], [6, 0]].flatten = stream [[1, 2, 3], [4, 5, 0, 6]] := by
  unfold Fits; decide +kernel

end Siot.Cobs
