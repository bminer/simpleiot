import Siot.Props.C03
import Siot.Gen.Facts
/-
C05 — The graph stays a rooted DAG and refused writes leave no trace.
Model: Siot/Model/Store.lean (edgePoints pre-checks, ancestor check, `step`).
-/
namespace Siot.Store
open Siot

/-- Tie A (structural facts re-extracted from the Go source on every run): every error path of
nodePoints / edgePoints after Begin rolls back (or is the Begin/Commit error itself); the write lock is
taken before Begin; both bus handlers return right after replying with an error; and the literals of
the NaN / key normalisation and of the ancestor walk. -/
theorem gen_facts_pinned :
    Gen.nodePointsReturns.2.2 = 0 ∧ Gen.edgePointsReturns.2.2 = 0 ∧
    Gen.nodePointsLockBeforeBegin = true ∧ Gen.edgePointsLockBeforeBegin = true ∧
    Gen.handleNodePointsStops = true ∧ Gen.handleEdgePointsStops = true ∧
    Gen.normalizePointsCmps = ["==\"\"", "==0"] ∧ Gen.isAncestorCmps = ["==of", "!=nil", "!=nil"] := by
  and_intros <;> rfl

/-- **C05 refusals.** A self edge, a tombstone on the instance root, a value that is not a number
(in node points or edge points), and a new edge without node type are answered with an error. -/
theorem c05_refuses_self (st : St) (n : Bytes) (pts : List Point) : edgePoints st n n pts = .err "self" :=
  if_pos rfl

theorem c05_refuses_root_delete (st : St) (parent : Bytes) (pts : List Point) (hp : st.root ≠ parent)
    (h : pts.any (fun p => p.type == tombstoneT && isPos p.value) = true) :
    edgePoints st st.root parent pts = .err "root" := by
  unfold edgePoints
  rw [if_neg hp, if_pos ⟨rfl, h⟩]

theorem c05_refuses_nan_node (st : St) (id : Bytes) (pts : List Point) (h : pts.any (fun p => isNaN p.value) = true) :
    nodePoints st id pts = .err "nan" := by
  unfold nodePoints; rw [if_pos h]

theorem c05_refuses_nan_edge (st : St) (node parent : Bytes) (pts : List Point)
    (h : pts.any (fun p => isNaN p.value) = true) : ∃ e, edgePoints st node parent pts = .err e :=
  ite_err_refused (ite_err_refused ⟨_, if_pos h⟩)

/-- **C05 cycles are refused.** In a reachable (acyclic) state, a new edge whose node is the parent
or any ancestor of the parent — through live or deleted edges — is answered with an error. -/
theorem c05_refuses_cycle (st : St) (hinv : Inv st) (node parent : Bytes) (pts : List Point)
    (hnew : st.edges.find? (fun e => e.up == (if parent.isEmpty then rootS else parent) && e.down == node) = none)
    (hreach : Reach (keysOf st.edges) (if parent.isEmpty then rootS else parent) node) :
    ∃ e, edgePoints st node parent pts = .err e :=
  ite_err_refused <| ite_err_refused <| ite_err_refused <| by
    rw [edgePointsCore, hnew]
    exact ite_err_refused ⟨_, if_pos (List.contains_iff_mem.mpr ((hinv.mem_ancestors fun _ h => h).mpr hreach))⟩

/-- **C05 refused writes leave no trace** in the store: node contents, edges and hashes are exactly
what they were. (That nothing is rebroadcast either is the handler fact `handle*Stops` above.) -/
theorem c05_refused_leaves_no_trace (st : St) (op : WOp) (h : (step st op).2 = false) : (step st op).1 = st := by
  rcases step_cases st op with h' | ⟨st', h', _⟩
  · rw [h']
  · rw [h'] at h; cases h

/-- **C05 DAG invariant.** Every reachable state is acyclic (it has a rank function that strictly
increases downward along every edge, deleted edges included), so every upstream walk terminates. -/
theorem c05_dag_invariant (ops : List WOp) : Ranked (run {} ops) := (c03_reachable ops).ranked

/-- on an acyclic state the bounded walks of the model are exhaustive: everything reachable upstream
    is found within the fuel (the model never cuts a walk short) -/
theorem c05_walks_complete (st : St) (hinv : Inv st) (n x : Bytes) :
    x ∈ ancestors (2 ^ st.edges.length) st.edges n ↔ Reach (keysOf st.edges) n x :=
  hinv.mem_ancestors fun _ h => h

/-- non-vacuity: a → b → c exists; attaching a under c is refused, and the state is unchanged -/
example :
    let nt : Point := { type := nodeTypeT, text := [100] }
    let st := run {} [.ep [97] [] [nt], .ep [98] [97] [nt], .ep [99] [98] [nt]]
    (step st (.ep [97] [99] [nt])).2 = false ∧ (step st (.ep [97] [99] [nt])).1 = st := by
  decide +kernel

end Siot.Store
