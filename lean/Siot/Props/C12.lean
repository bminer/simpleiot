import Siot.Lemmas.Pb
import Siot.Lemmas.PbBytes
import Siot.Gen.Pb
/-
C12 — Wire encodings are lossless and malformed bytes are rejected cleanly.
Model: Siot/Model/Proto3.lean (wire format as protobuf-go v1.27.1 implements it for these messages),
Siot/Model/Pb.lean (messages, conversions, decoders, high-rate payload, subject parsers).
-/
namespace Siot.Pb
open Siot Siot.Proto3

/-- Tie A: the message layouts of internal/pb/*.proto (field names, types, numbers), the offsets of
the high-rate payload parser, the chunk-count checks of the subject parsers and the nil check of
PbToNode as they are in the sources right now. -/
theorem gen_pb_pinned :
    Gen.pbPointProto = ["Point.data:bytes:14", "Point.key:string:11", "Point.origin:string:15", "Point.text:string:8",
      "Point.time:google.protobuf.Timestamp:5", "Point.tombstone:int32:12", "Point.type:string:2", "Point.value:double:4",
      "PointArray.key:string:3", "PointArray.samplerate:float:4", "PointArray.starttime:uint64:1", "PointArray.type:string:2",
      "PointArray.values:*float:5", "Points.points:*Point:1", "SerialPoint.data:bytes:14", "SerialPoint.key:string:11",
      "SerialPoint.origin:string:15", "SerialPoint.text:string:8", "SerialPoint.time:int64:16", "SerialPoint.tombstone:int32:12",
      "SerialPoint.type:string:2", "SerialPoint.value:float:4", "SerialPoints.points:*SerialPoint:1"] ∧
    Gen.pbNodeProto = ["Node.edgePoints:*Point:7", "Node.hash:int32:4", "Node.id:string:1", "Node.parent:string:6",
      "Node.points:*Point:3", "Node.type:string:2", "NodeRequest.error:string:2", "NodeRequest.node:Node:1",
      "Nodes.nodes:*Node:1", "NodesRequest.error:string:2", "NodesRequest.nodes:*Node:1"] ∧
    Gen.hrPayloadLits = ["16", "16", "8", "4", "4", "0", "16", "16", "32", "32", "40", "0", "40", "44", "16", "16", "8",
      "4", "4", "0", "0", "44", "4", "44", "4", "4"] ∧
    Gen.subjectParserCmps = ["<2", "<3", "<3", "<4"] ∧
    Gen.pbToNodeCmps = ["pbNode==nil", "err!=nil", "err!=nil"] :=
  ⟨rfl, rfl, rfl, rfl, rfl⟩

/-- **C12 point round trip (message level).** Every field of a point — type, key, value bits, text,
seconds and nanoseconds, tombstone, origin and binary data — survives `ToPb` / `PbToPoint`, for
every point whose time lies in the Timestamp range and whose tombstone count fits an int32. -/
theorem c12_point_roundtrip (p : Point) (ht : WireTime p) (hb : Int32 p.tomb) :
    ∃ q, toPb p = .ok q ∧ pbToPoint q = .ok p :=
  ⟨pbOf p, toPb_pbOf p ht, pbToPoint_pbOf p ⟨ht, hb⟩⟩

/-- outside the Timestamp range the encoder reports an error instead of sending a wrong time -/
theorem c12_point_time_error (p : Point) (h : validTs ⟨p.sec, p.nsec⟩ = false) : toPb p = .err "timestamp" := by
  simp [toPb, h]

theorem toInt32_hash (h : Nat) (hh : h < 4294967296) : ((toInt32 h) % 4294967296).toNat = h :=
  (toInt32_emod_toNat h).trans (Nat.mod_eq_of_lt hh)

/-- **C12 node round trip (message level).** id, type, parent, hash (through int32 and back) and both
point lists survive `ToPbNode` / `PbToNode`. -/
theorem c12_node_roundtrip (n : Node) (hh : n.hash < 4294967296)
    (hp : ∀ p ∈ n.points ++ n.edgePoints, WireTime p ∧ Int32 p.tomb) :
    ∃ q, toPbNode n = .ok q ∧ pbToNode (some q) = .ok n :=
  ⟨pbNodeOf n, toPbNode_pbNodeOf n fun p h => (hp p h).1, pbToNode_pbNodeOf n hh hp⟩

/-- what the system puts into a point: a time in the Timestamp range, a tombstone count that fits an int32, text
fields that are valid UTF-8 (protobuf-go refuses to marshal anything else), a 64-bit value pattern, and less than
2^63 bytes of strings and data -/
structure PointOk (p : Point) : Prop where
  time : WireTime p
  tomb : Int32 p.tomb
  type : utf8Valid p.type = true
  key : utf8Valid p.key = true
  text : utf8Valid p.text = true
  origin : utf8Valid p.origin = true
  value : p.value < 18446744073709551616
  size : p.type.length + p.text.length + p.key.length + p.origin.length + p.data.length < 9223372036854775808

theorem toPb_ok (p : Point) (h : PointOk p) : toPb p = .ok (pbOf p) :=
  toPb_pbOf p h.time

theorem toInt32_int32 (n : Nat) : Int32 (toInt32 n) := by
  rw [toInt32_eq_bmod]
  exact ⟨Int.le_bmod (by decide), Int.bmod_le (by decide)⟩

theorem pbOf_ok (p : Point) (h : PointOk p) : PbPointOk (pbOf p) ∧ SmallPoint (pbOf p) := by
  obtain ⟨t1, t2, t3, t4⟩ := h.time
  have hs := h.size
  refine ⟨⟨h.type, h.text, h.key, h.origin, h.value, toInt32_int32 _, ?_, ?_⟩, hs⟩
  · rintro _ ⟨⟩
    exact ⟨⟨Int.le_trans (by decide) t1, Int.le_of_lt (Int.lt_trans t2 (by decide))⟩,
      Int.le_trans (by decide) t3, Int.le_of_lt (Int.lt_trans t4 (by decide))⟩
  · simp only [pbOf]
    omega

/-- **C12 point round trip through the wire bytes.** For every well-formed point, `ToPb` succeeds, the bytes
`proto.Marshal` writes for the result parse and decode (`proto.Unmarshal`) to exactly that message, and `PbToPoint`
gives back the original point, field for field. -/
theorem c12_point_bytes_roundtrip (p : Point) (h : PointOk p) :
    ∃ q, toPb p = .ok q ∧ pointOfBytes (encPoint q) = some q ∧ pbToPoint q = .ok p :=
  ⟨pbOf p, toPb_ok p h, pointOfBytes_encPoint _ (pbOf_ok p h).1, pbToPoint_pbOf p ⟨h.time, h.tomb⟩⟩

theorem mapRes_toPb (ps : List Point) (h : ∀ p ∈ ps, PointOk p) : mapRes toPb ps = .ok (ps.map pbOf) :=
  mapRes_ok toPb pbOf ps (fun p hp => toPb_ok p (h p hp))

theorem mapRes_back (ps : List Point) (h : ∀ p ∈ ps, PointOk p) : mapRes pbToPoint (ps.map pbOf) = .ok ps :=
  mapRes_inv pbOf pbToPoint ps fun p hp => pbToPoint_pbOf p ⟨(h p hp).time, (h p hp).tomb⟩

/-- **C12 point-list round trip through the wire bytes** (`Points.ToPb` / `PbDecodePoints`, the payload of every
point message on the bus): any list of well-formed points, of any length, is decoded from its own bytes to the same
list in the same order. -/
theorem c12_points_bytes_roundtrip (ps : List Point) (h : ∀ p ∈ ps, PointOk p) :
    ∃ qs, mapRes toPb ps = .ok qs ∧ pbDecodePoints (encPoints qs) = .ok ps := by
  refine ⟨ps.map pbOf, mapRes_toPb ps h, ?_⟩
  rw [pbDecodePoints, points_bytes _ (List.forall_mem_map.2 fun p hp => pbOf_ok p (h p hp))]
  exact mapRes_back ps h

/-- a node as the system produces it -/
structure NodeOk (n : Node) : Prop where
  id : utf8Valid n.id = true
  type : utf8Valid n.type = true
  parent : utf8Valid n.parent = true
  hash : n.hash < 4294967296
  lens : n.id.length < 18446744073709551616 ∧ n.type.length < 18446744073709551616 ∧ n.parent.length < 18446744073709551616
  points : ∀ p ∈ n.points ++ n.edgePoints, PointOk p

theorem toPbNode_ok (n : Node) (h : NodeOk n) : toPbNode n = .ok (pbNodeOf n) :=
  toPbNode_pbNodeOf n fun p hp => (h.points p hp).time

theorem pbNodeOf_ok (n : Node) (h : NodeOk n) : PbNodeOk (pbNodeOf n) :=
  ⟨h.id, h.type, h.parent, toInt32_int32 _, h.lens, fun q hq => by
    rw [pbNodeOf, ← List.map_append] at hq
    obtain ⟨p, hp, rfl⟩ := List.mem_map.1 hq
    exact pbOf_ok p (h.points p hp)⟩

theorem pbToNode_back (n : Node) (h : NodeOk n) : pbToNode (some (pbNodeOf n)) = .ok n :=
  pbToNode_pbNodeOf n h.hash fun p hp => ⟨(h.points p hp).time, (h.points p hp).tomb⟩

/-- **C12 node round trip through the wire bytes** (`Node.ToPbNode` + `proto.Marshal` / `PbDecodeNode`): id, type,
parent, hash and both point lists of any length come back from the node's own bytes. -/
theorem c12_node_bytes_roundtrip (n : Node) (h : NodeOk n) :
    ∃ q, toPbNode n = .ok q ∧ pbDecodeNode (encNode q) = .ok n := by
  refine ⟨pbNodeOf n, toPbNode_ok n h, ?_⟩
  rw [pbDecodeNode, nodeOfBytes_encNode _ (pbNodeOf_ok n h)]
  exact pbToNode_back n h

/-- **C12 node-list round trip through the wire bytes** (`Nodes` / `NodesRequest`, the reply to a children or node
query): any list of well-formed nodes whose single encodings stay below 2^64 bytes is decoded from its own bytes to
the same list in the same order, with or without the error field being read. -/
theorem c12_nodes_bytes_roundtrip (withErr : Bool) (ns : List Node) (h : ∀ n ∈ ns, NodeOk n)
    (hsz : ∀ n ∈ ns, (encNode (pbNodeOf n)).length < 18446744073709551616) :
    ∃ qs, mapRes toPbNode ns = .ok qs ∧ pbDecodeNodes withErr (encNodes qs) = .ok ns := by
  refine ⟨ns.map pbNodeOf, mapRes_ok toPbNode pbNodeOf ns (fun n hn => toPbNode_ok n (h n hn)), ?_⟩
  rw [pbDecodeNodes, nodes_bytes withErr _ (List.forall_mem_map.2 fun n hn => ⟨pbNodeOf_ok n (h n hn), hsz n hn⟩)]
  simp only [ne_eq, not_true_eq_false, and_false, if_false]
  exact mapRes_inv pbNodeOf _ ns fun n hn => pbToNode_back n (h n hn)

/-- **C12 serial points through the wire bytes** (`SerialPoints`, the MCU link): every well-formed list of serial
points is decoded from its own bytes to the points with the same type, key, text, binary data, tombstone count and
origin, the float32 value widened and the nanosecond time split into seconds and nanoseconds — nothing else. -/
theorem c12_serial_bytes_roundtrip (widen : Nat → Nat) (qs : List PbSerialPoint)
    (h : ∀ q ∈ qs, PbSerialOk q ∧ (encSerialPoint q).length < 18446744073709551616) :
    pbDecodeSerialPoints widen (encSerialPoints qs) = .ok (qs.map (serialToPoint widen)) := by
  rw [pbDecodeSerialPoints, serial_points_bytes qs h]

/-- the hypotheses are satisfiable by an ordinary point (non-vacuity) -/
example : PointOk { type := [0x76], key := [0x30], value := 0x3ff0000000000000, text := [], sec := 1700000000,
                    nsec := 5, tomb := 1, origin := [], data := [1, 2] } := by
  refine ⟨⟨?_, ?_, ?_, ?_⟩, ⟨?_, ?_⟩, ?_, ?_, ?_, ?_, ?_, ?_⟩ <;> decide

/-- **C12 decoders are total.** Whatever bytes arrive — for points, a node, a node reply (with or
without a node), node lists, serial points — the decoder returns a value or an error; the outcome
`panic` (nil dereference, index out of range) is impossible. -/
theorem c12_decoders_total (widen : Nat → Nat) (b : Bytes) (m : String) :
    pbDecodePoints b ≠ .panic m ∧ pbDecodeNode b ≠ .panic m ∧ pbDecodeNodeRequest b ≠ .panic m ∧
    pbDecodeNodes false b ≠ .panic m ∧ pbDecodeNodes true b ≠ .panic m ∧ pbDecodeSerialPoints widen b ≠ .panic m := by
  have nodes (withErr : Bool) : pbDecodeNodes withErr b ≠ .panic m := by
    unfold pbDecodeNodes
    split
    · nofun
    · split
      · nofun
      · exact mapRes_no_panic (fun n _ => pbToNode_no_panic (some n)) m
  refine ⟨?_, ?_, ?_, nodes false, nodes true, ?_⟩
  · unfold pbDecodePoints
    split
    · nofun
    · exact mapRes_no_panic (fun q _ => pbToPoint_no_panic q) m
  · unfold pbDecodeNode
    split
    · nofun
    · exact pbToNode_no_panic _ m
  · unfold pbDecodeNodeRequest
    split
    · nofun
    · split
      · nofun
      · exact pbToNode_no_panic _ m
  · unfold pbDecodeSerialPoints
    split <;> nofun

/-- every slice taken by the sample loop of the high-rate parser is inside the payload -/
theorem hrSamples_no_panic (widen : Nat → Nat) (payload typ key : Bytes) (s p : Int) :
    ∀ (n i : Nat), 44 + 4 * (i + n) ≤ payload.length → ∀ m, hrSamples widen payload typ key s p i n ≠ .panic m := by
  intro n
  induction n with
  | zero => nofun
  | succ n ih =>
    intro i h m
    have := ih (i + 1) (Nat.add_right_comm i 1 n ▸ h)
    rw [hrSamples, slice_ok _ _ _ (by omega)]
    dsimp only
    split
    · nofun
    · exact this m

/-- **C12 high-rate payload: all slice bounds are within the payload.** -/
theorem c12_hr_in_bounds (widen : Nat → Nat) (now : Int) (payload : Bytes) (m : String) :
    decodeHr widen now payload ≠ .panic m := by
  unfold decodeHr
  split
  · nofun
  · next h =>
    have h48 : 48 ≤ payload.length := Nat.le_of_not_lt h
    have sl (lo hi : Nat) (h1 : lo ≤ hi) (h2 : hi ≤ 48) := slice_ok payload lo hi ⟨h1, Nat.le_trans h2 h48⟩
    rw [sl 0 16 (by decide) (by decide), sl 16 32 (by decide) (by decide), sl 32 40 (by decide) (by decide),
      sl 40 44 (by decide) (by decide)]
    exact hrSamples_no_panic widen payload _ _ _ _ _ 0 (by omega) m

/-- **C12 subject parsers index only below the checked length.** -/
theorem c12_subjects_total (s : Bytes) (m : String) :
    parseSubject 2 [1] s ≠ .panic m ∧ parseSubject 3 [1, 2] s ≠ .panic m ∧ parseSubject 4 [1, 2, 3] s ≠ .panic m :=
  ⟨parseSubject_no_panic 2 [1] (by decide) s m, parseSubject_no_panic 3 [1, 2] (by decide) s m,
    parseSubject_no_panic 4 [1, 2, 3] (by decide) s m⟩

end Siot.Pb
