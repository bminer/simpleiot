import Siot.Lemmas.LWW
import Siot.Lemmas.StoreOps
import Siot.Gen.Store
/-
C01 — Newest point wins, whatever the delivery order or batching.
Model: Siot/Model/Store.lean (normPoint, collapse, mergeBatch, nodePoints, edgePoints).
-/
namespace Siot.Store
open Siot

/-- Tie A: the store normalises the key ("" → "0") and the sign of zero before collapsing. -/
theorem gen_normalize_pinned : Gen.normalizePointsCmps = ["==\"\"", "==0"] := rfl

/-- **C01 (main): a read returns exactly the newest delivered point of every identity.**
For ANY list of batches delivered to one node (or one edge) — any order, any grouping into batches,
with duplicates and re-deliveries — if two different delivered points of one identity never share a
timestamp, then the stored rows are exactly the delivered points that are newest for their identity
(type, key with "" read as "0"), with all of their fields. -/
theorem c01_read_is_newest (bs : List (List Point)) (hadm : Admissible (delivered bs)) (p : Point) :
    p ∈ rowsAfter [] bs ↔ Newest (delivered bs) p :=
  lww_mem_iff (rowsAfter_lww (idUnique_lww_self .nil) bs) hadm p

/-- **no second point for an identity**, with no hypothesis at all on the deliveries -/
theorem c01_one_row_per_identity (bs : List (List Point)) : IdUnique (rowsAfter [] bs) :=
  (rowsAfter_lww (idUnique_lww_self .nil) bs).uniq

/-- **order, batching, duplication and re-sending are irrelevant**: two histories that deliver the
same set of points leave the same rows -/
theorem c01_order_batching_irrelevant (bs bs' : List (List Point))
    (hsame : ∀ p, p ∈ delivered bs ↔ p ∈ delivered bs') (hadm : Admissible (delivered bs)) :
    ∀ p, p ∈ rowsAfter [] bs ↔ p ∈ rowsAfter [] bs' := by
  have hadm' : Admissible (delivered bs') := fun a ha b hb => hadm a ((hsame a).mpr ha) b ((hsame b).mpr hb)
  intro p
  rw [c01_read_is_newest bs hadm, c01_read_is_newest bs' hadm', Newest, Newest, hsame p]
  exact and_congr_right fun _ => ⟨fun h q hq => h q ((hsame q).mpr hq), fun h q hq => h q ((hsame q).mp hq)⟩

/-- **a point older than the one already held never changes what is read** -/
theorem c01_stale_is_noop (rows : List Point) (p old : Point) (hu : IdUnique rows)
    (hf : rows.find? (sameId (normPoint p)) = some old) (hstale : (normPoint p).time < old.time) :
    (mergeBatch rows (collapse ([p].map normPoint))).1 = rows := by
  simp only [List.map_cons, List.map_nil, collapse, List.find?_nil, mergeBatch, hf]
  rw [if_neg (Int.not_le.mpr hstale)]

/-- the rows `nodePoints` leaves for the written node are the merge-loop result, and every other
    node keeps its rows -/
theorem c01_nodePoints_rows (st st' : St) (id : Bytes) (pts : List Point) (h : nodePoints st id pts = .ok st') (n : Bytes) :
    ptsOf st' n = if n = id then (mergeBatch (ptsOf st id) (collapse (pts.map normPoint))).1 else ptsOf st n := by
  cases nodePoints_ok_iff.mp h
  exact ptsOf_nodeWrite ..

/-- non-vacuity: the colliding identities ("ab","") / ("a","b") and ("x","") / ("x","0") in one batch -/
example :
    let b : List Point := [{ type := [97, 98], key := [], time := 3 }, { type := [97], key := [98], time := 4 },
                           { type := [120], key := [], time := 5 }, { type := [120], key := [48], time := 6 }]
    Admissible (delivered [b]) ∧
    rowsAfter [] [b] = [{ type := [97, 98], key := [48], time := 3 }, { type := [97], key := [98], time := 4 },
                        { type := [120], key := [48], time := 6 }] := by
  unfold Admissible
  decide +kernel

end Siot.Store
