import Siot.Lemmas.Export
import Siot.Lemmas.ExportNode
import Siot.Lemmas.ExportTree
import Siot.Lemmas.ExportTime
import Siot.Gen.Export
import Siot.Lemmas.StoreRows
import Siot.Props.C03
/-
C15 — Export followed by import reproduces the tree.
The YAML text between export and import (github.com/goccy/go-yaml) is not modelled. The store-level composition
(sending the prepared nodes, reading them back) is `c15_import_stored` for trees without mirrors, and is also
decided by the correspondence run for all generated trees.
-/
namespace Siot.Export
open Siot Siot.Store

/-- **C15 (ids are replaced consistently).** For every exported tree (any shape, with mirrors and
cross-references, blank ids included) and any supply of new ids that are pairwise different and not blank,
ReplaceIDs yields a tree that, node by node in the same order and depth,
* keeps type and edge points,
* carries id `σ old` for one map `σ` — the same old id always becomes the same new id, in node ids and in
  the text of node-id points alike (references to nodes outside the tree get a new id of their own),
* and `σ` never sends two different old ids to one new id;
moreover every node's parent field names the node directly above it (the import target for the top
node): the result passes `checkIDs`. -/
theorem c15_replace_consistent (fresh : Nat → Bytes) (hinj : Function.Injective fresh) (hne : ∀ k, fresh k ≠ [])
    (target : Bytes) (ht : target ≠ []) (f : Flat) :
    ∃ σ : Bytes → Option Bytes,
      Forall2 (Renamed σ) f (replaceIDs fresh target f) ∧
      (∀ a b x, σ a = some x → σ b = some x → a = b) ∧
      checkIDs target [] (replaceIDs fresh target f) = true := by
  have h0 : MapInv fresh {} := ⟨(fun _ _ _ ha => nomatch ha), (fun _ _ ha => nomatch ha)⟩
  obtain ⟨hgrew, hren⟩ := replaceAux_spec fresh hinj target f {} [] h0
  exact ⟨lookupId (replaceIDsAux fresh target {} [] f).2.map, hren _ (Ext.refl _), hgrew.inv.inj,
    replaceAux_checks fresh hinj hne target ht f {} [] h0⟩

/-- **C15 (identifier preservation).** With preserved ids nothing is renamed: the nodes sent are the
exported ones, the top node re-parented and marked; and they are only sent when every node's parent
field names the node above it and no id is blank. -/
theorem c15_preserve_sends_same (isDel : Nat → Bool) (fresh : Nat → Bytes) (st : St) (target : Bytes) (f : Flat) (now : Int)
    (st' : St) (h : importNodes isDel fresh st target f true now = .ok st') :
    checkIDs target [] (prepTop target f) = true ∧ sendAll st (prepTop target f) now = .ok st' := by
  have h := (ite_err_eq_ok.mp (ite_err_eq_ok.mp h).2).2
  by_cases h3 : checkIDs target [] (prepTop target f) = true
  · exact ⟨h3, by simpa only [if_true, h3] using h⟩
  · simp only [if_true, h3] at h
    cases h

/-- **C15 (the import marker goes on the top description only).** -/
theorem c15_marker_top_only (target : Bytes) (d : Nat) (n : NodeRec) (rest : Flat) :
    prepTop target ((d, n) :: rest) =
      (d, { n with parent := target,
                   pts := n.pts.map (fun p => if p.type = descriptionT then { p with text := p.text ++ importMark } else p) }) :: rest := rfl

/-- **C15 (noise reduction is undone by the store).** Writing key "0" as "" loses nothing: the store
reads "" as "0" again, so the stored point is the same. -/
theorem c15_blank_key_restored (p : Point) : normPoint (blankKey p) = normPoint p :=
  norm_blankKey p

/-- exported edge points are the stored ones (key "0" blanked) except tombstone points with value 0,
    which say "not deleted" — the same as having none -/
theorem c15_edge_points_kept (eps : List Point) (p : Point) :
    p ∈ exportEdgePts eps ↔ ∃ q ∈ eps, p = blankKey q ∧ ¬ (q.type = tombstoneT ∧ (q.value = 0 ∨ q.value = negZero)) := by
  rw [exportEdgePts_eq, List.mem_map]
  exact exists_congr fun q => by rw [List.mem_filter, keepE_iff, and_assoc, and_comm (b := blankKey q = p), eq_comm]

/-- **C15 (deleted nodes are not exported).** Every exported node is the lower end of a non-deleted
edge, and carries that node's type, points and edge points. -/
theorem c15_exports_live_only (isDel : Nat → Bool) (st : St) : ∀ (fuel d : Nat) (e : Edge) (x : Nat × NodeRec),
    e ∈ Auth.live isDel st → x ∈ exportFrom isDel st fuel d e → ∃ e' ∈ Auth.live isDel st, x.2 = recOf st e' := by
  intro fuel
  induction fuel with
  | zero => intro d e x _ hx; cases hx
  | succ fuel ih =>
    intro d e x he hx
    rw [exportFrom_succ, List.mem_cons, mem_below] at hx
    rcases hx with rfl | ⟨c, hc, _, hx⟩
    · exact ⟨e, he, rfl⟩
    · exact ih (d + 1) c x hc hx

theorem pairwise_mem {α : Type} (R : α → α → Prop) : ∀ (l : List α), l.Pairwise R → ∀ a b, a ∈ l → b ∈ l →
    a = b ∨ R a b ∨ R b a :=
  fun _ h _ _ ha hb => List.Pairwise.forall_of_forall_of_flip (R := fun a b => a = b ∨ R a b ∨ R b a) (fun _ _ => .inl rfl)
    (h.imp fun h => .inr (.inl h)) (h.imp fun h => .inr (.inr h)) ha hb

/-- **C15 (the store holds the imported tree, and exporting it again gives the file back).** Let `f` be the nodes
ImportNodes sends (after the marker and the id handling), each in the form `exportNodesHelper` writes — points and
edge points are stored rows with key "0" blanked, no mirrors inside the tree — and none of them known to the store.
Then every `SendNode` succeeds, and afterwards: (1) the graph has exactly one new edge per node, in the order of the
file, with the node's parent, id and type, and no old edge changed its ends or type (so every node has the children
the file gives it, in the same order — `c15_children_order`); (2) for every imported node, the record
`exportNodesHelper` reads from the store for its edge is the node of the file: same id, type, parent, points and
edge points (type, key, value, text, tombstone count, time); (3) its deletion mark is the one in the file; (4) all
other nodes and edges of the store keep their points. -/
theorem c15_import_stored (st : St) (f : Flat) (now : Int)
    (hall : ∀ x ∈ f, NodeOk x.2 ∧ Fresh st x.2.id)
    (hpw : f.Pairwise (fun a b => b.2.id ≠ a.2.id ∧ b.2.id ≠ a.2.parent)) :
    ∃ st', sendAll st f now = .ok st' ∧
      st'.edges.map shape = st.edges.map shape ++ f.map shapeOf ∧
      (∀ x ∈ f, ∀ e ∈ st'.edges, e.down = x.2.id → recOf st' e = x.2 ∧ edgeTomb st' e = tombX x.2.epts) ∧
      (∀ y, (∀ x ∈ f, x.2.id ≠ y) → ptsOf st' y = ptsOf st y) ∧
      (∀ u d, (∀ x ∈ f, x.2.id ≠ d) → eptsOf st' u d = eptsOf st u d) := by
  obtain ⟨st', hsend, hsh, hrows, hpt, hep, _⟩ := sendAll_fresh f st now hall hpw
  refine ⟨st', hsend, hsh, fun x hx e he hd => ?_, hpt, hep⟩
  -- which edge is it: not an old one (the node was unknown), so the one of a node of the file with this id: `x` itself
  have hm : shape e ∈ st'.edges.map shape := List.mem_map_of_mem he
  rw [hsh] at hm
  have hsx : shape e = shapeOf x := by
    rcases List.mem_append.mp hm with hm | hm
    · obtain ⟨e', he', hse⟩ := List.mem_map.mp hm
      exact absurd ((shape_eq hse).2.1.trans hd) ((hall x hx).2.edges e' he').2
    · obtain ⟨z, hz, hze⟩ := List.mem_map.mp hm
      have hzid : z.2.id = x.2.id := (shape_eq hze.symm).2.1.symm.trans hd
      rcases pairwise_mem _ f hpw z x hz hx with h | h | h
      · rw [← h]
        exact hze.symm
      · exact absurd hzid.symm h.1
      · exact absurd hzid h.1
  obtain ⟨hp, he', htomb⟩ := hrows x hx
  obtain ⟨hup, hdown, _⟩ := shape_eq hsx
  exact ⟨recOf_of_shape hsx hp he', by rw [edgeTomb_eq, hup, hdown, htomb]⟩

/-- **C15 (same shape).** After the import every node — old or new — has its old children followed by the nodes
of the file that name it as parent, in the order of the file. -/
theorem c15_children_order (st st' : St) (f : Flat) (h : st'.edges.map shape = st.edges.map shape ++ f.map shapeOf) (p : Bytes) :
    (st'.edges.filter (fun e => e.up == p)).map (·.down) =
      (st.edges.filter (fun e => e.up == p)).map (·.down) ++ (f.filter (fun x => x.2.parent == p)).map (·.2.id) := by
  have := congrArg (List.map (·.2.1)) (kids_shape h p)
  rwa [List.map_append, List.map_map, List.map_map, List.map_map] at this

/-- **C15 (exporting the imported tree again walks the file's own tree).** With what `c15_import_stored` establishes
about the store after the import (one new edge per node in file order; the record and the deletion mark read back for
every imported node are those of the file), for a store that had no edge below any of the new ids and a file whose
nodes are not marked deleted: `exportNodesHelper` started at the edge of ANY imported node returns exactly the
pre-order list that the parent pointers of the file describe from that node down (`rebuild`): the node, then the
entries of the file naming it as parent, in file order, each with its subtree — same shape, same records, nothing
from the rest of the store. (For a file that is the pre-order list of its own tree, `rebuild f _ 0 top = f`, this
is the file itself; the driver checks that fixed point on every exported file, see the example below.) -/
theorem c15_reexport (isDel : Nat → Bool) (st st' : St) (f : Flat)
    (hsh : st'.edges.map shape = st.edges.map shape ++ f.map shapeOf)
    (hrec : ∀ x ∈ f, ∀ e ∈ st'.edges, e.down = x.2.id → recOf st' e = x.2 ∧ edgeTomb st' e = tombX x.2.epts)
    (hfresh : ∀ x ∈ f, ∀ e ∈ st.edges, e.up ≠ x.2.id)
    (hlive : ∀ x ∈ f, isDel (tombX x.2.epts) = false) :
    ∀ (fuel d : Nat), ∀ x ∈ f, ∀ e ∈ st'.edges, e.down = x.2.id →
      exportFrom isDel st' fuel d e = rebuild f fuel d x.2 := by
  intro fuel
  induction fuel with
  | zero => intro d x _ e _ _; rfl
  | succ fuel ih =>
    intro d x hx e he hd
    -- below the node, in order: the edges of the entries of the file that name it as parent, none of them deleted
    have hkids := kids_shape_new hsh (hfresh x hx)
    have hlv : ∀ c ∈ st'.edges, c.up = x.2.id → isDel (edgeTomb st' c) = false := by
      intro c hc hcu
      have hm : shape c ∈ (st'.edges.filter (fun e => e.up == x.2.id)).map shape :=
        List.mem_map_of_mem (List.mem_filter.mpr ⟨hc, beq_iff_eq.mpr hcu⟩)
      rw [hkids] at hm
      obtain ⟨y, hy, hs⟩ := List.mem_map.mp hm
      have hy := (List.mem_filter.mp hy).1
      rw [(hrec y hy c hc (shape_eq hs.symm).2.1).2]
      exact hlive y hy
    rw [exportFrom_succ, rebuild_succ, (hrec x hx e he hd).1, below, hd, live_filter_up hlv]
    refine congrArg _ (flatMap_congr_map hkids fun c hc y hy hs => ?_)
    exact ih (d + 1) y (List.mem_filter.mp hy).1 c (List.mem_filter.mp hc).1 (shape_eq hs).2.1

/-- **C15 (the file carries no time stamps).** The YAML file holds points without times; the store stamps them when
they arrive. Importing such a file `f` (every time 0) at clock `now` — node after node, one clock reading per node —
is, step for step and in its result, importing the same file with every point of node number *i* stamped `now + i`
(`stampFlat`). That stamped file is the form `c15_import_stored` speaks about (stored rows, times not zero), so
everything it says holds for the time-less file with the times of the import. -/
theorem c15_import_timeless_file (f : Flat) (st : St) (now : Int) (hpos : 0 < now) :
    sendAll st (zeroFlat f) now = sendAll st (stampFlat now f) now := by
  induction f generalizing st now with
  | nil => rfl
  | cons x rest ih =>
    show sendAll st ((x.1, zeroNode x.2) :: zeroFlat rest) now = sendAll st ((x.1, stampNode now x.2) :: stampFlat (now + 1) rest) now
    rw [sendAll, sendAll, sendNode_timeless st x.2 now (Int.ne_of_gt hpos)]
    cases sendNode st (stampNode now x.2) now with
    | ok st1 => exact ih st1 (now + 1) (Int.lt_add_one_of_le (Int.le_of_lt hpos))
    | err e => rfl
    | panic e => rfl

/-- **C15 (an exported file is the traversal of its own tree).** On every store whose non-deleted edges form a
forest — no node below two non-deleted edges (no mirrors) and no cycle — the file `exportNodesHelper` writes from any
non-deleted edge, at any depth budget, is exactly the pre-order list its own parent pointers describe: walking the file
from its first node by `parent` fields (`rebuild`) gives the file back. (This is the fixed point `c15_reexport` refers
to; the driver still evaluates it on every exported file, mirrors included.) -/
theorem c15_export_is_own_tree (isDel : Nat → Bool) (st : St) (hf : Forest (Auth.live isDel st)) (k d : Nat) (e : Edge)
    (he : e ∈ Auth.live isDel st) :
    rebuild (exportFrom isDel st k d e) k d (recOf st e) = exportFrom isDel st k d e := by
  cases k with
  | zero => rfl
  | succ k => exact rebuild_self hf k d (recOf st e) (export_up_outside hf (k + 1) d e he)

/-- **C15 (export, import with the ids kept, export again: the same file).** Let `f` be the file exported from a
non-deleted edge of a forest store `st0`, with the top node re-parented to the import target and its description marked
as `ImportNodes` does (`prepTop`; the target is not a node of the file). If the import leaves the store as
`c15_import_stored` describes (hypotheses of `c15_reexport`), then exporting the imported top node again returns `f`
itself — every node, in the same order and depth, with the same points and edge points. -/
theorem c15_export_import_export (isDel : Nat → Bool) (st0 st st' : St) (K : Nat) (e0 : Edge) (target : Bytes)
    (hf : Forest (Auth.live isDel st0)) (he0 : e0 ∈ Auth.live isDel st0)
    (htgt : target ∉ ids (exportFrom isDel st0 (K + 1) 0 e0))
    (f : Flat) (hfd : f = prepTop target (exportFrom isDel st0 (K + 1) 0 e0))
    (hsh : st'.edges.map shape = st.edges.map shape ++ f.map shapeOf)
    (hrec : ∀ x ∈ f, ∀ e ∈ st'.edges, e.down = x.2.id → recOf st' e = x.2 ∧ edgeTomb st' e = tombX x.2.epts)
    (hfresh : ∀ x ∈ f, ∀ e ∈ st.edges, e.up ≠ x.2.id)
    (hlive : ∀ x ∈ f, isDel (tombX x.2.epts) = false) :
    ∀ e ∈ st'.edges, e.down = e0.down → exportFrom isDel st' (K + 1) 0 e = f := by
  intro e he hd
  subst hfd
  rw [c15_reexport isDel st st' _ hsh hrec hfresh hlive (K + 1) 0 _ (List.mem_cons_self ..) e he hd]
  exact rebuild_self hf K 0 _ htgt

/-- non-vacuity of the forest hypothesis: a root with two children, one of them with a child of its own -/
example :
    let L : List Edge := [⟨rootS, [82], [100], 0⟩, ⟨[82], [97], [100], 0⟩, ⟨[82], [98], [100], 0⟩, ⟨[97], [99], [100], 0⟩]
    Forest L := by
  exact ⟨⟨fun b => if b = rootS then 0 else if b = [82] then 1 else if b = [99] then 3 else 2, by decide +kernel⟩,
    by decide +kernel⟩

/-- non-vacuity: a file with two levels and siblings is its own traversal -/
example :
    let n := fun (id par : Bytes) => ({ id := id, typ := [100], parent := par, pts := [], epts := [] } : NodeRec)
    SelfRebuilding [(0, n [97] [82]), (1, n [98] [97]), (2, n [100] [98]), (1, n [99] [97])] = true := by decide +kernel

/-- non-vacuity of `c15_import_stored`: a two-node file (a point with key "0" written as "", a child) and a store
    with a root node that does not know the two ids -/
example :
    let st : St := { edges := [⟨rootS, [97], [100], 0⟩], root := [97] }
    let n1 : NodeRec := { id := [98], typ := [100], parent := [97], pts := [{ type := [116], key := [], time := 5, text := [120] }], epts := [] }
    let n2 : NodeRec := { id := [99], typ := [100], parent := [98], pts := [], epts := [] }
    let f : Flat := [(0, n1), (1, n2)]
    (∀ x ∈ f, NodeOk x.2 ∧ Fresh st x.2.id) ∧ f.Pairwise (fun a b => b.2.id ≠ a.2.id ∧ b.2.id ≠ a.2.parent) := by
  intro st n1 n2 f
  have e1 : Exported n1 [{ type := [116], key := zeroKey, time := 5, text := [120] }] [] :=
    ⟨by decide, by decide,
      (by
        intro p hp
        simp only [List.mem_singleton] at hp
        subst hp
        exact ⟨by decide, by decide, by decide, by decide⟩),
      List.pairwise_singleton _ _, (by intro p hp; cases hp), List.Pairwise.nil⟩
  have e2 : Exported n2 [] [] :=
    ⟨by decide, by decide, (by intro p hp; cases hp), List.Pairwise.nil, (by intro p hp; cases hp), List.Pairwise.nil⟩
  have fr : ∀ x : Bytes, x ≠ [97] → x ≠ rootS → Fresh st x := by
    intro x h1 h2
    refine ⟨?_, rfl, fun _ => rfl, h1⟩
    intro e he
    simp only [st, List.mem_singleton] at he
    subst he
    exact ⟨fun h => h2 h.symm, fun h => h1 h.symm⟩
  refine ⟨?_, ?_⟩
  · intro x hx
    simp only [f, List.mem_cons, List.not_mem_nil, or_false] at hx
    rcases hx with rfl | rfl
    · exact ⟨⟨⟨_, _, e1⟩, by decide, by decide, by decide⟩, fr _ (by decide) (by decide)⟩
    · exact ⟨⟨⟨_, _, e2⟩, by decide, by decide, by decide⟩, fr _ (by decide) (by decide)⟩
  · decide +kernel

/-- non-vacuity: a tree with a mirror and a cross-reference gets consistent new ids -/
example :
    let fresh : Nat → Bytes := fun k => [35, UInt8.ofNat (48 + k)]
    let n := fun (id par : Bytes) (pts : List Point) => ({ id := id, typ := [100], parent := par, pts := pts, epts := [] } : NodeRec)
    (replaceIDs fresh [72] [(0, n [97] [71] []), (1, n [98] [97] [{ type := nodeIDT, text := [99] }]), (1, n [99] [97] []), (2, n [98] [99] [])]).map
      (fun x => (x.2.id, x.2.parent, x.2.pts.map (·.text))) =
    [([35, 48], [72], []), ([35, 49], [35, 48], [[35, 50]]), ([35, 50], [35, 48], []), ([35, 49], [35, 50], [])] := by decide +kernel

/-- tie A: ExportNodes / exportNodesHelper / ImportNodes / checkIDs / ReplaceIDs / SendNode have the shape
the model transcribes; floats go through the repaired marshaler. -/
theorem gen_export_pinned :
    Gen.exportHelperIfs = ["p.Key == \"0\"", "p.Key == \"0\"", "p.Type == data.PointTypeTombstone && p.Value == 0", "err != nil", "err != nil"] ∧
    Gen.exportHelperGetNodes = ["nc, node.ID, \"all\", \"\", false"] ∧
    Gen.exportGetNodes = ["nc, \"all\", id, \"\", false"] ∧
    Gen.exportMarshal = ["ne, yaml.CustomMarshaler[float64](yamlFloat)"] ∧
    Gen.importIfs = ["parent == \"root\" || parent == \"\"", "err != nil", "err != nil", "len(n) < 1", "err != nil", "err != nil", "err != nil",
      "len(imp.Nodes) < 1", "p.Type == data.PointTypeDescription", "preserveIDs", "err != nil",
      "parent == \"root\" && rootNode.ID != imp.Nodes[0].ID", "err != nil"] ∧
    Gen.importCalls = ["imp.Nodes[0], parent", "&imp.Nodes[0], parent", "nc, node.NodeEdge, origin"] ∧
    Gen.importMarker = ["imp.Nodes[0].Points[i].Text += \" (import)\""] ∧
    Gen.checkIDsIfs = ["parent == \"\"", "node.Parent != parent", "node.ID == \"\"", "err != nil"] ∧
    Gen.checkIDsRec = ["c, node.ID"] ∧
    Gen.replaceIfs = ["n.ID == \"\"", "!ok", "p.Type == data.PointTypeNodeID", "p.Text == \"\"", "!ok"] ∧
    Gen.replaceRec = ["&n.Children[i], n.ID", "nodes, parent"] ∧
    Gen.replaceRanges = ["n.Points", "n.Children"] ∧
    Gen.sendNodeIfs = ["origin != \"\"", "node.Points[i].Origin == \"\"", "node.EdgePoints[i].Origin == \"\"", "node.ID == \"\"",
      "node.Parent == \"\" || node.Parent == \"none\"", "err != nil", "p.Type == data.PointTypeTombstone && (p.Key == \"\" || p.Key == \"0\")",
      "!hasTombstone", "err != nil"] ∧
    Gen.sendNodeSends = ["nc, node.ID, points, true", "nc, node.ID, node.Parent, node.EdgePoints, true"] := by
  and_intros <;> rfl

theorem gen_export_constants_pinned :
    strBytes Gen.sPointTypeDescription = descriptionT ∧ strBytes Gen.sPointTypeNodeID = nodeIDT := by
  decide +kernel

/-- **C15 (the records of an export meet the premises of the import theorems).** `c15_import_stored` and the theorems
built on it ask that every node of the file is `Exported`: its points and edge points are the exported form of stored rows
— no empty key, no -0, no NaN, one row per identity, no node type among the edge rows — with time stamps. For a file written
by `ExportNodes` from ANY store reachable by write requests this is not an assumption: the store normalises what it
writes and refuses NaN (`rowInv_run`), keeps one row per identity (`c03_reachable`), and `exportNodesHelper` builds the
record from exactly those rows (`recOf`). The one genuine premise left is that the rows carry time stamps (a writer
that sends a zero time is stamped by the store's clock in the implementation; the store model takes the time as given). -/
theorem c15_exported_records_meet_the_premises (ops : List WOp) (e : Edge)
    (htime : ∀ id, ∀ p ∈ ptsOf (run {} ops) id, p.time ≠ 0) (hetime : ∀ u d, ∀ p ∈ eptsOf (run {} ops) u d, p.time ≠ 0) :
    Exported (recOf (run {} ops) e) (ptsOf (run {} ops) e.down) (eptsOf (run {} ops) e.up e.down) := by
  have hr := rowInv_run rowInv_empty ops
  have hi := c03_reachable ops
  exact ⟨rfl, rfl, fun p hp => .of_good (hr.1 _ (mem_ptsOf.mp hp)) (htime _ p hp), hi.npu _,
    fun p hp => ⟨.of_good (hr.2 _ (mem_eptsOf.mp hp)).1 (hetime _ _ p hp), (hr.2 _ (mem_eptsOf.mp hp)).2⟩, hi.epu (e.up, e.down)⟩

end Siot.Export
