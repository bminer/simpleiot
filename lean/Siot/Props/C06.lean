import Siot.Props.C05
import Siot.Model.Rebroadcast
import Siot.Gen.Rebroadcast
/-
C06 — Every accepted change is rebroadcast to every live ancestor (and to nothing else).
-/
namespace Siot.Store
open Siot

theorem keysOf_filter_sub (es : List Edge) (p : Edge → Bool) : ∀ k ∈ keysOf (es.filter p), k ∈ keysOf es :=
  fun _ => keysOf_filter_subset

/-- **C06 node points: complete and tight.** In every reachable store state, a node-point write on
node `n` is republished on the subject of exactly the nodes reachable from `n` upward through edges
whose tombstone is even (not deleted) — `n` itself, every live ancestor, the root sentinel when the
root is reached — and on no other subject. -/
theorem c06_node_complete_and_tight (isEven : Nat → Bool) (st : St) (hinv : Inv st) (n x : Bytes) :
    x ∈ pubsNode isEven st n ↔ Reach (keysOf (liveEdges isEven st)) n x :=
  hinv.mem_ancestors (keysOf_filter_sub _ _)

/-- **C06 edge points: complete and tight**, through any edges (deleted ones included). -/
theorem c06_edge_complete_and_tight (st : St) (hinv : Inv st) (n x : Bytes) :
    x ∈ pubsEdge st n ↔ Reach (keysOf st.edges) n x :=
  c05_walks_complete st hinv n x

/-- what is announced for node points is also announced for edge points (live ⊆ any) -/
theorem c06_node_sub_edge (isEven : Nat → Bool) (st : St) (hinv : Inv st) (n x : Bytes)
    (h : x ∈ pubsNode isEven st n) : x ∈ pubsEdge st n :=
  (c06_edge_complete_and_tight st hinv n x).mpr
    (((c06_node_complete_and_tight isEven st hinv n x).mp h).mono (keysOf_filter_sub _ _))

/-- the written node itself is always among the subjects -/
theorem c06_self (isEven : Nat → Bool) (st : St) (hinv : Inv st) (n : Bytes) : n ∈ pubsNode isEven st n :=
  (c06_node_complete_and_tight isEven st hinv n n).mpr (.refl n)

/-- tie A: the republish recursion in store/store.go and `up` in store/sqlite.go have the shape the model
assumes: one publication per visited node on `up.<visited>.<node>[.<parent>]` with the points as
received, recursion over exactly `up(visited, false)` (node points) / `up(visited, true)` (edge points),
`up` = parents by `down = ?`, skipping an edge iff `math.Mod(tombstone, 2) ≠ 0`; the handlers start the
walk at the written node itself. -/
theorem gen_rebroadcast_pinned :
    Gen.processPointsUpstreamSubject = ["\"up.%v.%v\", upNodeID, nodeID"] ∧
    Gen.processPointsUpstreamUp = ["upNodeID, false"] ∧
    Gen.processPointsUpstreamRec = ["up, nodeID, points"] ∧
    Gen.processPointsUpstreamSend = ["st.nc, sub, points, false"] ∧
    Gen.processPointsUpstreamCmps = ["!=nil", "==\"none\"", "!=nil", "!=nil"] ∧
    Gen.processPointsUpstreamRanges = ["ups"] ∧
    Gen.processEdgePointsUpstreamSubject = ["\"up.%v.%v.%v\", upNodeID, nodeID, parentID"] ∧
    Gen.processEdgePointsUpstreamUp = ["upNodeID, true"] ∧
    Gen.processEdgePointsUpstreamRec = ["up, nodeID, parentID, points"] ∧
    Gen.processEdgePointsUpstreamSend = ["st.nc, sub, points, false"] ∧
    Gen.processEdgePointsUpstreamCmps = ["!=nil", "==\"none\"", "!=nil", "!=nil"] ∧
    Gen.processEdgePointsUpstreamRanges = ["ups"] ∧
    Gen.upQuery = "SELECT * FROM edges WHERE down=?" ∧
    Gen.upCmps = ["!=nil", "==0"] ∧ Gen.upMod = ["p.Value, 2"] ∧
    Gen.upFind = ["data.PointTypeTombstone, \"\""] ∧
    Gen.handleNodePointsUp = ["nodeID, nodeID, points"] ∧
    Gen.handleEdgePointsUp = ["nodeID, nodeID, parentID, points"] := by
  and_intros <;> rfl

/-- non-vacuity: a reachable store R → a → b with a second, deleted, edge c → b: node points of `b` are announced to b, a
    and R but not to c; edge points also to c -/
example :
    let isEven : Nat → Bool := fun v => v != 4607182418800017408
    let nt : Int → Point := fun t => { type := nodeTypeT, text := [100], time := t }
    let st := run {} [
      .ep [82] [] [{ type := tombstoneT, time := 1 }, nt 1],
      .ep [97] [82] [{ type := tombstoneT, time := 2 }, nt 2],
      .ep [99] [82] [{ type := tombstoneT, time := 3 }, nt 3],
      .ep [98] [97] [{ type := tombstoneT, time := 4 }, nt 4],
      .ep [98] [99] [{ type := tombstoneT, time := 5, value := 4607182418800017408 }, nt 5]]
    Inv st ∧ st.edges.length = 5 ∧
      ([97] ∈ pubsNode isEven st [98] ∧ [82] ∈ pubsNode isEven st [98] ∧ [99] ∉ pubsNode isEven st [98]) ∧ [99] ∈ pubsEdge st [98] := by
  intro isEven nt st
  exact ⟨c03_reachable _, by decide +kernel⟩

end Siot.Store
