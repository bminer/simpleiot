import Siot.Lemmas.Rule
import Siot.Lemmas.Schedule
import Siot.Gen.Rule
/- C13 — A rule is active exactly when all of its conditions hold. -/
namespace Siot.Rule
open Siot Siot.Schedule

/-- the filter of a point-value condition: node, key and type, each only when set -/
def Matches (c : Cond) (n : Bytes) (p : Pt) : Prop :=
  (c.nodeID = [] ∨ c.nodeID = n) ∧ (c.pointKey = [] ∨ c.pointKey = p.key) ∧ (c.pointType = [] ∨ c.pointType = p.type)

/-- **C13 point conditions.** A point-value condition is evaluated by exactly the points that pass its
node / key / type filter, and the verdict is the configured comparison: `>`,`<`,`=`,`!=` on numbers
(IEEE order, NaN compares false except `!=`), equality of "non-zero" for on/off, `=`,`!=`,`contains` on text. -/
theorem c13_point_verdict (c : Cond) (n : Bytes) (p : Pt) (hc : c.ctype = sPointValue) :
    (¬ Matches c n p → verdict c n p = none) ∧
    (Matches c n p →
      (c.valueType = sNumber → verdict c n p = some (numCmp c.operator p.value c.value)) ∧
      (c.valueType = sText → verdict c n p = some (textCmp c.operator p.text c.valueText)) ∧
      (c.valueType = sOnOff → verdict c n p = some (fnz c.value == fnz p.value))) := by
  -- `Matches` says that none of the three `continue` tests fires
  have hm : Matches c n p ↔ ¬ (c.nodeID ≠ [] ∧ c.nodeID ≠ n) ∧ ¬ (c.pointKey ≠ [] ∧ c.pointKey ≠ p.key) ∧
      ¬ (c.pointType ≠ [] ∧ c.pointType ≠ p.type) := by
    simp only [Matches, Decidable.not_and_iff_not_or_not, Decidable.not_not]
  unfold verdict evalCond
  rw [hm, if_pos hc]
  -- the tests are decided one by one by `rw`: `split` would take the `match` of `verdict` around them
  by_cases h1 : c.nodeID ≠ [] ∧ c.nodeID ≠ n
  · rw [if_pos h1]; exact ⟨fun _ => rfl, fun h => absurd h1 h.1⟩
  rw [if_neg h1]
  by_cases h2 : c.pointKey ≠ [] ∧ c.pointKey ≠ p.key
  · rw [if_pos h2]; exact ⟨fun _ => rfl, fun h => absurd h2 h.2.1⟩
  rw [if_neg h2]
  by_cases h3 : c.pointType ≠ [] ∧ c.pointType ≠ p.type
  · rw [if_pos h3]; exact ⟨fun _ => rfl, fun h => absurd h3 h.2.2⟩
  rw [if_neg h3]
  refine ⟨fun h => absurd ⟨h1, h2, h3⟩ h, fun _ => ⟨fun hv => ?_, fun hv => ?_, fun hv => ?_⟩⟩
  · rw [if_pos hv]
  · rw [hv, if_neg (by decide), if_pos rfl]
  · rw [hv, if_neg (by decide), if_neg (by decide), if_pos rfl]

/-- the four numeric operators and three text operators are what they say -/
theorem c13_operators (pv cv : Nat) (pt ct : Bytes) :
    numCmp sGT pv cv = fgt pv cv ∧ numCmp sLT pv cv = flt pv cv ∧ numCmp sEQ pv cv = feq pv cv ∧
    numCmp sNE pv cv = !feq pv cv ∧
    (textCmp sEQ pt ct = true ↔ pt = ct) ∧ (textCmp sNE pt ct = true ↔ pt ≠ ct) ∧
    textCmp sContains pt ct = isInfix ct pt :=
  ⟨rfl, rfl, rfl, rfl, decide_eq_true_iff, decide_eq_true_iff, rfl⟩

/-- `isInfix` is substring containment: `needle` occurs in `hay` iff `hay = pre ++ needle ++ post` -/
theorem c13_contains_iff (needle hay : Bytes) : isInfix needle hay = true ↔ ∃ pre post, hay = pre ++ needle ++ post :=
  isInfix_iff.trans ⟨fun ⟨s, t, h⟩ => ⟨s, t, h.symm⟩, fun ⟨s, t, h⟩ => ⟨s, t, h.symm⟩⟩

/-- the float order used by `numCmp`: on non-NaN values exactly one of `<`, `=`, `>` holds;
    a NaN on either side makes all three false (and `!=` true) -/
theorem c13_float_trichotomy (a b : Nat) :
    (fNaN a = false → fNaN b = false →
      (flt a b = true ∧ feq a b = false ∧ fgt a b = false) ∨ (flt a b = false ∧ feq a b = true ∧ fgt a b = false) ∨
      (flt a b = false ∧ feq a b = false ∧ fgt a b = true)) ∧
    ((fNaN a = true ∨ fNaN b = true) → flt a b = false ∧ feq a b = false ∧ fgt a b = false ∧ fne a b = true) := by
  unfold fne fgt flt feq
  constructor
  · intro ha hb
    rw [ha, hb]
    generalize fkey a = x, fkey b = y
    rcases Int.lt_trichotomy x y with h | h | h
    · exact .inl (by simp [h, Int.ne_of_lt h, Int.lt_asymm h])
    · exact .inr (.inl (by simp [h]))
    · exact .inr (.inr (by simp [h, Int.ne_of_gt h, Int.lt_asymm h]))
  · rintro (h | h) <;> simp [h]

/-- **C13 schedule conditions.** A schedule condition is evaluated by trigger points only, and for a
schedule that parses the verdict at a trigger is `true` exactly when the trigger time lies in the window
of SOME allowed calendar day (the C14 specification). -/
theorem c13_schedule_verdict (c : Cond) (n : Bytes) (p : Pt) (hc : c.ctype = sSchedule) :
    (p.type ≠ sTrigger → verdict c n p = none) ∧
    (p.type = sTrigger → ∀ sh sm eh em, parseHM c.start = some (sh, sm) → parseHM c.stop = some (eh, em) →
      sh < 24 → sm < 60 → eh < 24 → em < 60 → (∀ d ∈ c.dates, parseDate d ≠ none) →
      ∃ b, verdict c n p = some b ∧ (b = true ↔ window (weekdayList c.weekdays) c.dates sh sm eh em p.time)) := by
  unfold verdict evalCond
  rw [hc, if_neg (by decide), if_pos rfl]
  refine ⟨fun h => by rw [if_pos h], fun h sh sm eh em hs he h1 h2 h3 h4 hd => ?_⟩
  obtain ⟨b, hb, hiff⟩ := active_iff_window ⟨c.start, c.stop, weekdayList c.weekdays, c.dates⟩ p.time
    sh sm eh em hs he h1 h2 h3 h4 hd
  exact ⟨b, by rw [if_neg (not_not_intro h), hb], hiff⟩

/-- **C13 (latest matching point decides).** After the rule has processed a non-empty batch from node
`n`, every condition's `active` is the verdict of the LAST point of the batch that is evaluated for it
(for point conditions: the last point passing the filter), and is unchanged when no point of the batch is;
conditions are otherwise untouched (same order, same filters and thresholds). -/
theorem c13_condition_latest (r : Rule) (n : Bytes) (pts : List Pt) (now : Int) (hne : pts ≠ []) :
    (runBatch r n pts now).1.conds = r.conds.map (condAfter n pts) ∧
    ∀ c ∈ r.conds, (condAfter n pts c).active =
      match (pts.filter (fun p => (verdict c n p).isSome)).getLast? with
      | some p => (verdict c n p).getD c.active
      | none => c.active :=
  ⟨(runBatch_settled r n now hne).conds, fun c _ => condAfter_active n pts c⟩

/-- the same across batches: over any sequence of deliveries (node, point), in the order the rule
processed them, a condition's `active` is the verdict of the last delivery evaluated for it -/
theorem c13_condition_latest_history (l : List (Bytes × Pt)) (c : Cond) :
    (condAfterL l c).active =
      match (l.filter (fun x => (verdict c x.1 x.2).isSome)).getLast? with
      | some x => (verdict c x.1 x.2).getD c.active
      | none => c.active := by
  rw [condAfterL_active_fold, foldl_getD_last]
  cases (l.filter fun x => (verdict c x.1 x.2).isSome).getLast? <;> rfl

/-- the deliveries of an event sequence made of non-empty batches and ticks -/
def deliveries (rid : Bytes) : List Event → List (Bytes × Pt)
  | [] => []
  | .batch n pts _ :: es => pts.map (fun p => (n, p)) ++ deliveries rid es
  | .tick now :: es => (rid, ⟨sTrigger, [], 0, [], now⟩) :: deliveries rid es
  | _ :: es => deliveries rid es

def PointEvents : List Event → Prop
  | [] => True
  | .batch _ pts _ :: es => pts ≠ [] ∧ PointEvents es
  | .tick _ :: es => PointEvents es
  | _ :: _ => False

theorem step_id (r : Rule) (e : Event) : (step r e).1.id = r.id := (step_spec r e).1

/-- **C13 over histories.** For every rule and every sequence of non-empty batches and schedule ticks,
the conditions after the sequence are the initial ones updated by all deliveries in order — so by
`c13_condition_latest_history` each is decided by the last delivery evaluated for it. -/
theorem c13_history (es : List Event) : ∀ (r : Rule), PointEvents es →
    (runEvents r es).1.conds = r.conds.map (condAfterL (deliveries r.id es)) := by
  induction es with
  | nil => exact fun r _ => (List.map_id _).symm
  | cons e es ih =>
    intro r hp
    -- a tick is the batch `[trigger]` from the rule's own node, for `step` and for `deliveries` alike
    have key (n pts now) (hne : pts ≠ []) (hes : PointEvents es) :
        (runEvents (runBatch r n pts now).1 es).1.conds =
          r.conds.map (condAfterL (pts.map (fun p => (n, p)) ++ deliveries r.id es)) := by
      have hs := runBatch_settled r n now hne
      rw [ih _ hes, hs.conds, hs.id, List.map_map]
      exact List.map_congr_left fun c _ => by
        rw [Function.comp_apply, condAfter_eq, ← condAfterL_append]
    cases e with
    | batch n pts now => exact key n pts now hp.1 hp.2
    | tick now => exact key r.id [⟨sTrigger, [], 0, [], now⟩] now (List.cons_ne_nil _ _) hp
    | _ => exact hp.elim

/-- **C13 (rule = conjunction).** After EVERY event (batch, tick, configuration change) the rule is
active exactly when all of its conditions are; a rule without conditions is active. -/
theorem c13_rule_active_iff_all (r : Rule) (e : Event) :
    (step r e).1.active = (step r e).1.conds.all (·.active) := (step_spec r e).2

/-- **C13 (actions run once per change).** For a non-empty batch:
* if the rule's state does not change, nothing but bookkeeping (`active` / `error` points of conditions
  and of the rule) is published and no action is touched;
* if it changes to `s`, every publication `o` that is not bookkeeping occurs exactly as often as it is
  the payload of an action of the list for `s` (actions when `s` is active, inactive-actions otherwise)
  — each action of that list runs once, none of the other list runs —, every action of that list ends
  up marked active, and every action of the opposite list is marked inactive and told so. -/
theorem c13_actions_once_per_change (r : Rule) (n : Bytes) (pts : List Pt) (now : Int) (hne : pts ≠ []) :
    let r' := (runBatch r n pts now).1
    let outs := (runBatch r n pts now).2
    (r'.active = r.active → (∀ o ∈ outs, Book o) ∧ r'.acts = r.acts ∧ r'.actsInactive = r.actsInactive) ∧
    (r'.active ≠ r.active →
      let w := firedList r'.active
      (∀ o, ¬ Book o → outs.count o = ((getActs r w).flatMap (payload r.id)).count o) ∧
      (∀ a ∈ getActs r' w, a.active = true) ∧
      (∀ a ∈ getActs r' (other w), a.active = false) ∧
      (∀ a ∈ getActs r (other w), send r.id a.id sActive (b2f false) [] [] ∈ outs)) := by
  rw [runBatch_nonempty r n pts now hne]
  have p := ruleProcessPoints_spec r n pts
  -- from here on only these facts matter: the terms they are about are made variables
  generalize ruleProcessPoints r n pts = pr at *
  have f := fire_spec pr.rule pr.active
  generalize fire pr.rule pr.active = fr at *
  by_cases hc : pr.changed = true
  · rw [if_pos hc]
    dsimp only
    rw [f.active, ← p.active]
    refine ⟨fun h => absurd (p.active ▸ h) (p.changed.mp hc),
      fun _ => ⟨fun o ho => ?_, fun a ha => ?_, fun a ha => ?_, fun a ha => ?_⟩⟩
    · rw [List.count_append, p.books.count ho, Nat.zero_add, f.count ho, p.acts, p.settled.id]
    · rw [f.ran] at ha
      obtain ⟨_, _, rfl⟩ := List.mem_map.mp ha
      exact updAct_active ..
    · rw [f.marked] at ha
      obtain ⟨_, _, rfl⟩ := List.mem_map.mp ha
      rfl
    · rw [← p.acts] at ha
      rw [← p.settled.id]
      exact List.mem_append_right _ (f.told ha)
  · rw [if_neg hc]
    exact ⟨fun _ => ⟨p.books, p.acts .act, p.acts .inact⟩, fun h => absurd (p.changed.mpr h) hc⟩

/-- **C13 (set-value payload).** A well-formed set-value action publishes exactly one point: the
configured type, value and text on the target node — with the RULE as origin whenever the target is not
the rule's own node; a malformed or unknown action, and a play-audio action whose file cannot be opened (an action
error after the repair; it used to end the process with log.Fatal), publishes nothing. -/
theorem c13_setvalue_payload (rid : Bytes) (a : Act) :
    (a.action = sSetValue → a.nodeID ≠ [] → a.pointType ≠ [] →
      payload rid a = [send rid a.nodeID a.pointType a.value a.valueText a.id] ∧
      (a.nodeID ≠ rid → payload rid a = [⟨a.nodeID, a.pointType, a.value, a.valueText, rid⟩])) ∧
    ((a.action ≠ sSetValue ∨ a.nodeID = [] ∨ a.pointType = []) → payload rid a = []) := by
  have := actEval_spec rid a
  unfold payload
  refine ⟨fun h1 h2 h3 => ?_, fun h => ?_⟩
  · rw [if_pos ⟨h1, h2, h3⟩] at this
    rw [this]
    exact ⟨rfl, fun hn => by rw [send, if_pos hn]⟩
  · rw [if_neg fun ⟨h1, h2, h3⟩ => by rcases h with h | h | h <;> contradiction] at this
    obtain ⟨e, he⟩ := this
    rw [he]

def exCond : Cond := {
  id := [99], ctype := sPointValue, nodeID := [110], pointType := [118], pointKey := [], valueType := sNumber,
  operator := sGT, value := 4617315517961601024, valueText := [], start := [], stop := [], weekdays := [], dates := [],
  active := false, error := [] }
def exAct : Act := {
  id := [97], action := sSetValue, nodeID := [116], pointType := [118], value := 4607182418800017408,
  valueText := [], active := false, error := [] }
def exRule : Rule := { id := [114], active := false, error := [], conds := [exCond], acts := [exAct], actsInactive := [] }

/-- value 10 (> 5) from the watched node: condition and rule become active, the action fires once -/
example : (runBatch exRule [110] [⟨[118], [], 4621819117588971520, [], 0⟩] 0).2 =
    [⟨[99], sActive, b2f true, [], [114]⟩, ⟨[114], sActive, b2f true, [], []⟩,
     ⟨[116], [118], 4607182418800017408, [], [114]⟩, ⟨[97], sActive, b2f true, [], [114]⟩] := by decide +kernel

/-- the same value from another node is ignored -/
example : (runBatch exRule [111] [⟨[118], [], 4621819117588971520, [], 0⟩] 0).2 = [] := by decide +kernel

/-- the comparisons, case labels, filters, loop structure and the `run` closure of client/rule.go
have the shape the model transcribes, and the schema constants are the model's strings -/
theorem gen_rule_pinned :
    Gen.processActiveAssigns = ["p.Value > c.Value", "p.Value < c.Value", "p.Value == c.Value", "p.Value != c.Value",
      "p.Text == c.ValueText", "p.Text != c.ValueText", "strings.Contains(p.Text, c.ValueText)", "condValue == pointValue",
      "sched.activeForTime(p.Time)"] ∧
    Gen.processCases = ["data.PointValuePointValue", "data.PointValueNumber", "data.PointValueGreaterThan", "data.PointValueLessThan",
      "data.PointValueEqual", "data.PointValueNotEqual", "data.PointValueText", "data.PointValueEqual", "data.PointValueNotEqual",
      "data.PointValueContains", "data.PointValueOnOff", "default", "data.PointValueSchedule"] ∧
    Gen.processIfs = ["c.Error != errS", "err != nil", "c.NodeID != \"\" && c.NodeID != nodeID", "c.PointKey != \"\" && c.PointKey != p.Key",
      "c.PointType != \"\" && c.PointType != p.Type", "p.Type != data.PointTypeTrigger", "v", "err != nil", "active != c.Active", "err != nil",
      "!errorActive && c.Error != \"\"", "err != nil", "!c.Active", "allActive != rc.config.Active", "err != nil"] ∧
    Gen.processRanges = ["points", "rc.config.Conditions", "c.Weekdays", "rc.config.Conditions"] ∧
    Gen.actionsCases = ["data.PointValueSetValue", "data.PointValueNotify", "data.PointValuePlayAudio", "default"] ∧
    Gen.actionsIfs = ["a.Error != errS", "err != nil", "a.NodeID == \"\"", "a.PointType == \"\"", "err != nil", "err != nil", "len(nodes) < 1",
      "err != nil", "err != nil", "err != nil", "format.SampleRate < 8000", "err != nil", "err != nil", "!errorActive && a.Error != \"\"", "err != nil"] ∧
    Gen.actionsSends = ["a.ID, p", "a.NodeID, p", "a.ID, p", "a.ID, p"] ∧
    Gen.inactiveSends = ["a.ID, p"] ∧
    Gen.sendPointIfs = ["id != rc.config.ID"] ∧ Gen.sendPointOrigin = ["rc.config.ID"] ∧
    Gen.runIfs = ["err != nil", "len(chunks) != 3", "err != nil", "!rc.hasSchedule()", "len(pts) > 0", "err != nil", "!changed", "err != nil",
      "active", "err != nil", "err != nil", "err != nil", "err != nil", "err != nil", "rc.hasSchedule()", "err != nil"] ∧
    Gen.runProcess = ["id, pts", "rc.config.ID, data.Points{{ Time: time.Now(), Type: data.PointTypeTrigger, }}"] ∧
    Gen.runRunActions = ["rc.config.Actions, id", "rc.config.ActionsInactive, id"] ∧
    Gen.runInactiveActions = ["rc.config.ActionsInactive", "rc.config.Actions"] ∧
    Gen.runCalls = ["pts.ID, pts.Points", "rc.config.ID, data.Points{{ Time: time.Now(), Type: data.PointTypeTrigger, }}", "\"\", nil", "\"\", nil"] ∧
    Gen.processErrorIfs = ["errS != \"\"", "errS != rc.config.Error", "err != nil", "c.Error != \"\"", "a.Error != \"\"", "a.Error != \"\"",
      "found != rc.config.Error", "err != nil"] := by
  and_intros <;> rfl

theorem gen_rule_constants_pinned :
    strBytes Gen.sPointValuePointValue = sPointValue ∧ strBytes Gen.sPointValueSchedule = sSchedule ∧
    strBytes Gen.sPointValueNumber = sNumber ∧ strBytes Gen.sPointValueOnOff = sOnOff ∧ strBytes Gen.sPointValueText = sText ∧
    strBytes Gen.sPointValueGreaterThan = sGT ∧ strBytes Gen.sPointValueLessThan = sLT ∧ strBytes Gen.sPointValueEqual = sEQ ∧
    strBytes Gen.sPointValueNotEqual = sNE ∧ strBytes Gen.sPointValueContains = sContains ∧
    strBytes Gen.sPointTypeTrigger = sTrigger ∧ strBytes Gen.sPointTypeActive = sActive ∧ strBytes Gen.sPointTypeError = sError ∧
    strBytes Gen.sPointValueSetValue = sSetValue := by
  decide +kernel

end Siot.Rule
