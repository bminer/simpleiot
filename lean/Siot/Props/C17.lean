import Siot.Lemmas.SubjectSafe
import Siot.Gen.Serial
/-
C17 — Serial packets round-trip and corruption is always detected.
Model: Siot/Model/Crc16.lean, Siot/Model/Serial.lean.
-/
namespace Siot.Serial
open Siot Siot.Crc16

/-- **C17 round trip (frame level).** For every sequence number, every subject of at most 16 bytes
without leading/trailing NUL, and every payload, `SerialDecode (SerialEncode …)` returns exactly the
sequence number, the subject and the payload — for checksummed packets and for `log` packets alike. -/
theorem c17_roundtrip (seq : UInt8) (sub payload : Bytes) (hlen : sub.length ≤ 16) (hnul : NulSafe sub) :
    ∃ p, encode seq sub payload = .ok p ∧ decode p = .ok ⟨seq, sub, payload⟩ := by
  have hpl := padSubject_length sub hlen
  have htrim := trimNul_pad sub hnul
  rw [encode, if_neg (show ¬ sub.length > subjectWidth from Nat.not_lt.mpr hlen)]
  by_cases hlog : sub = logSubject
  · exact ⟨_, if_pos hlog, by rw [decode_log _ _ _ hpl (htrim.trans hlog), htrim]⟩
  · exact ⟨_, if_neg hlog, by
      rw [le16, decode_crc _ _ _ _ _ hpl (fun h => hlog (htrim.symm.trans h)) (ofLe16_le16 _ (crc_lt _)), htrim]⟩

/-- a checksummed packet produced by the encoder has syndrome zero -/
theorem c17_encode_valid (seq : UInt8) (sub payload p : Bytes) (h : encode seq sub payload = .ok p)
    (hlog : sub ≠ logSubject) : run 0 (bitsOf p) = 0 := by
  unfold encode at h
  split at h
  · cases h
  · cases h
    exact syndrome_zero _ _ _ (ofLe16_le16 _ (crc_lt _))

/-- **C17 detection (main).** Let `p` be any checksummed packet (syndrome zero) of fewer than
32767 bits and `e` ANY error pattern of the same length that is a burst of up to 16 bits (in
transmission order, at any position: header, payload, trailer or straddling) or a one- or two-bit
error. If the decoder accepts the corrupted packet at all, then its subject field reads `log`
— the one exemption the protocol makes. In every other case the packet is rejected. -/
theorem c17_detects (p e : Bytes) (hlen : p.length = e.length) (hvalid : run 0 (bitsOf p) = 0)
    (hsize : 8 * p.length < 32767) (hclass : Burst16 (bitsOf e) ∨ AtMostTwo (bitsOf e))
    (r : Decoded) (h : decode (xorBytes p e) = .ok r) : r.subject = logSubject := by
  apply Decidable.byContradiction
  intro hne
  obtain ⟨body, lo, hi, hd, hcrc⟩ := (decode_ok_inv h).2 hne
  have hz := syndrome_zero body lo hi hcrc
  rw [← hd, syndrome_xor p e hlen, hvalid, Nat.zero_xor] at hz
  exact detect_bits (bitsOf e) (by rw [bitsOf_length, ← hlen]; exact hsize) hclass hz

/-- **C17 log exemption cannot be reached from a safe subject.** If the 16-byte subject field of
the original packet satisfies the decidable predicate `SubjectSafe`, no burst of up to 16 bits and
no one- or two-bit error — anywhere in the packet — makes the decoder read the subject `log`. -/
theorem c17_subject_safe (p e : Bytes) (hlen : p.length = e.length) (h17 : 17 ≤ p.length)
    (hsafe : SubjectSafe (field p) = true) (hclass : Burst16 (bitsOf e) ∨ AtMostTwo (bitsOf e)) :
    trimNul (field (xorBytes p e)) ≠ logSubject := by
  intro hlog
  have hfl : (field p).length = 16 := field_length p h17
  have hel : (field e).length = 16 := field_length e (by omega)
  rw [field_xor] at hlog
  obtain ⟨a, ha, hT⟩ := trim_log _ (by rw [xorBytes_length (hfl.trans hel.symm), hfl]) hlog
  have hE : field e = xorBytes (field p) (target a) := by
    rw [← hT, xorBytes_cancel _ _ (by omega)]
  have hs := List.all_eq_true.mp hsafe a (List.mem_range.mpr (by omega))
  rw [← hE] at hs
  exact safeAt_not_class _ hs (isTrue_field e) hclass

/-- **C17 detection, complete form.** A checksummed packet whose subject field is `SubjectSafe`,
altered by any burst of up to 16 bits or any one- or two-bit error, is never accepted. -/
theorem c17_detects_safe (p e : Bytes) (hlen : p.length = e.length) (hvalid : run 0 (bitsOf p) = 0)
    (hsize : 8 * p.length < 32767) (h17 : 17 ≤ p.length) (hsafe : SubjectSafe (field p) = true)
    (hclass : Burst16 (bitsOf e) ∨ AtMostTwo (bitsOf e)) (r : Decoded) :
    decode (xorBytes p e) ≠ .ok r := by
  intro h
  exact c17_subject_safe p e hlen h17 hsafe hclass
    ((decode_ok_inv h).1 ▸ c17_detects p e hlen hvalid hsize hclass r h)

/-- the documented constant subjects are safe: blank (MCU root node), `ack`, `phr` -/
theorem c17_documented_subjects_safe :
    SubjectSafe (padSubject []) = true ∧
    SubjectSafe (padSubject [97, 99, 107]) = true ∧        -- "ack"
    SubjectSafe (padSubject [112, 104, 114]) = true ∧      -- "phr"
    SubjectSafe (padSubject [112, 46, 110, 111, 100, 101, 49]) = true ∧   -- "p.node1"
    SubjectSafe (padSubject [112, 46, 97, 98, 46, 99, 100]) = true := by  -- "p.ab.cd"
  decide +kernel

/-- **The hypothesis is necessary (known finding).** On subject `p.g` a 13-bit burst turns the
subject field into `log`; the result is accepted without any checksum, with a different subject. -/
theorem c17_unsafe_witness :
    let p : Bytes := 7 :: (padSubject [112, 46, 103] ++ [1, 2, 3])          -- seq 7, "p.g", payload 01 02 03 (+ any trailer)
    let e : Bytes := 0 :: ([0x1c, 0x41] ++ List.replicate 19 0)
    SubjectSafe (field p) = false ∧
    (decode (xorBytes (p ++ [0, 0]) e)).isPanic = false ∧
    (∃ r, decode (xorBytes (p ++ [0, 0]) e) = .ok r ∧ r.subject = logSubject) := by
  refine ⟨?_, ?_, ⟨7, logSubject, [1, 2, 3, 0, 0]⟩, ?_, rfl⟩
  all_goals decide +kernel

/-- Tie A: subject width, the exemption literal and the KERMIT parameters as they are in the
sources right now. -/
theorem gen_serial_pinned :
    Gen.serialSubjectWidth = 16 ∧ Gen.serialLogSubject = "log" ∧ Gen.serialDecodeCmps = ["<1", "<17", "!=\"log\"", "<19", "!=crcCalc"] ∧
    Gen.serialEncodeCmps = [">16", "==\"log\""] ∧
    Gen.crc16CCITTPoly = 0x8408 ∧ Gen.crc16CCITTTableCtor = "MakeTableNoXOR" ∧ Gen.crc16ChecksumCCITTInit = 0 := by
  exact ⟨rfl, rfl, rfl, rfl, rfl, rfl, rfl⟩

/-- non-vacuity of `c17_detects_safe`: the frame the encoder writes for subject "ack", payload 01 02 03, sequence 7, and an
    error pattern that flips eight adjacent bits inside the subject field -/
example :
    let p : Bytes := (7 : UInt8) :: (padSubject [97, 99, 107] ++ [1, 2, 3]) ++ le16 (crc ((7 : UInt8) :: (padSubject [97, 99, 107] ++ [1, 2, 3])))
    let e : Bytes := List.replicate 3 0 ++ [255] ++ List.replicate 18 0
    encode 7 [97, 99, 107] [1, 2, 3] = .ok p ∧ p.length = e.length ∧ run 0 (bitsOf p) = 0 ∧ 8 * p.length < 32767 ∧ 17 ≤ p.length ∧
      SubjectSafe (field p) = true ∧ Burst16 (bitsOf e) := by
  intro p e
  have he : bitsOf e = zeros 24 ++ (List.replicate 8 true ++ zeros 144) := by decide +kernel
  refine ⟨rfl, by decide +kernel, by decide +kernel, by decide +kernel, by decide +kernel, by decide +kernel,
    ⟨24, by rw [he]; rfl⟩, 24, fun j hj => ?_⟩
  rw [he, IsTrue, List.getElem?_append] at hj
  split at hj
  · exact absurd hj (isTrue_zeros 24 j)
  · rw [List.getElem?_append] at hj
    split at hj
    · simp only [zeros, List.length_replicate] at *; omega
    · exact absurd hj (isTrue_zeros 144 _)

end Siot.Serial
